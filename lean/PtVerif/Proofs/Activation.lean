import PtVerif.Model.Activation
import PtVerif.Proofs.Bateman
import Mathlib.Analysis.SpecialFunctions.Pow.Real

/-! One row of `activity()` at `ℝ` (C14): the three formulas of the code are `λ·N(T)` of the chains of
`Bateman.lean`; `activityRow_eq` states `activityRow` in the rates of those chains, and the branches,
the sign for physical inputs and the linearity in the mass are read off it. -/
namespace PtModel.Activation

noncomputable instance instTranscReal : Transc ℝ :=
  ⟨Real.exp, Real.log, Real.sqrt, Real.cos, Real.pi, fun x => |x|⟩

noncomputable instance instActNumReal : ActNum ℝ := ⟨fun x => Real.exp x - 1, fun _ => false⟩

@[simp] theorem transc_exp (x : ℝ) : Transc.exp x = Real.exp x := rfl
@[simp] theorem transc_log (x : ℝ) : Transc.log x = Real.log x := rfl
@[simp] theorem transc_abs (x : ℝ) : Transc.abs x = |x| := rfl
@[simp] theorem actnum_expm1 (x : ℝ) : ActNum.expm1 x = Real.exp x - 1 := rfl
@[simp] theorem actnum_noOverflow (x : ℝ) : ActNum.expOverflows x = false := rfl

/-- decaying at the rate `log 2 / T½` is halving every `T½` -/
theorem exp_neg_log_two_div_mul (thalf t : ℝ) :
    Real.exp (-(Real.log 2 / thalf) * t) = (2:ℝ) ^ (-t / thalf) := by
  rw [Real.rpow_def_of_pos two_pos]
  congr 1
  ring

theorem actCorrection_eq (lam T U V : ℝ) :
    actCorrection lam T U V =
      if V - U = 0 then lam * T * Real.exp (-U)
      else lam * T * (Real.exp (-U) - Real.exp (-V)) / (V - U) := by
  have h1 : Real.exp (-V) = Real.exp (-U) * Real.exp (-(V - U)) := by
    rw [← Real.exp_add, ← neg_add, add_sub_cancel]
  have h2 : Real.exp (-U) = Real.exp (-V) * Real.exp (V - U) := by
    rw [← Real.exp_add, neg_add_eq_sub, sub_sub_cancel_left]
  simp only [actCorrection, transc_exp, actnum_expm1]
  rcases lt_trichotomy (V - U) 0 with h | h | h
  · rw [if_neg h.not_gt, if_pos h, if_neg h.ne, h2]
    ring
  · rw [if_neg h.not_gt, if_neg h.not_lt, if_pos h]
  · rw [if_pos h, if_neg h.ne', h1, div_neg, ← neg_div]
    ring

theorem actCorrection_mul (lam a c N0 T : ℝ) :
    a * N0 * actCorrection lam T (a * T) (c * T) = lam * actNp N0 a c T := by
  rcases eq_or_ne T 0 with rfl | hT
  · simp [actCorrection_eq, actNp_zero]
  rw [actCorrection_eq, ← sub_mul]
  by_cases hca : c = a
  · subst hca
    rw [sub_self, zero_mul, if_pos rfl, actNp_self]
    ring
  · rw [actNp_of_ne N0 hca, nN2, if_neg (mul_ne_zero (sub_ne_zero.mpr hca) hT),
      mul_right_comm lam T, mul_div_mul_right _ _ hT]
    ring

theorem bCore_eq (R lam lp T : ℝ) (hlam : lam ≠ 0) (hne : lp - lam ≠ 0) :
    bCore R lam lp T = lam * bD R lp lam T := by
  unfold bCore bD
  simp only [actnum_expm1, neg_mul]
  field_simp
  ring

theorem twoNCore_eq (root lam plam l2 pa T : ℝ) :
    twoNCore root lam plam l2 pa T = lam * nN3 root (pa - plam) l2 pa lam T := by
  unfold twoNCore nN3 twoNDen1 twoNDen2 twoNDen3
  simp only [transc_exp, neg_mul]
  ring

/-- burn-up rate of the target (1/h): `flux*initialXS*3600*1e-24` -/
noncomputable def rateA (env : Env ℝ) (r : Row ℝ) : ℝ := fluxOf env r * initialXS env r * 3.6e3 * 1e-24
/-- burn-up rate of the product / capture rate of the parent (1/h): `fluence*effectiveXS*3600*1e-24` -/
noncomputable def rateB (env : Env ℝ) (r : Row ℝ) : ℝ := env.fluence * effectiveXS env r * 3.6e3 * 1e-24
/-- decay constant of the product -/
noncomputable def rateLam (c : Consts ℝ) (r : Row ℝ) : ℝ := c.ln2 / r.thalf
/-- decay constant of the parent (`'b'`, `'2n'`) -/
noncomputable def ratePlam (c : Consts ℝ) (r : Row ℝ) : ℝ := c.ln2 / r.thalfParent
/-- number of target atoms in the units of `root` (µCi·h): `mass/A·1.6278e19/3600` -/
noncomputable def atoms0 (c : Consts ℝ) (r : Row ℝ) (mass : ℝ) : ℝ := mass / (r.a : ℝ) * c.uCi / 3.6e3

theorem root_eq (c : Consts ℝ) (r : Row ℝ) (mass : ℝ) (env : Env ℝ) :
    rootOf c (fluxOf env r) (initialXS env r) mass r.a = rateA env r * atoms0 c r mass := by
  unfold rootOf rateA atoms0
  ring

/-- first-capture rate as the `'2n'` branch writes it (`flux*initialXS*1e-24*3600`) -/
theorem l2_eq (env : Env ℝ) (r : Row ℝ) :
    fluxOf env r * initialXS env r * 1e-24 * 3.6e3 = rateA env r := by
  unfold rateA
  ring

/-- total loss rate of the parent as the `'2n'` branch writes it -/
theorem pa_eq (c : Consts ℝ) (env : Env ℝ) (r : Row ℝ) :
    env.fluence * 1e-24 * 3.6e3 * effectiveXS env r + c.ln2 / r.thalfParent = rateB env r + ratePlam c r := by
  unfold rateB ratePlam
  ring

theorem ratePlam_sub_rateLam_ne_zero {c : Consts ℝ} {r : Row ℝ} (hc : c.ln2 ≠ 0)
    (h : r.thalfParent ≠ r.thalf) : ratePlam c r - rateLam c r ≠ 0 := by
  rw [sub_ne_zero, ratePlam, rateLam, div_eq_mul_inv, div_eq_mul_inv]
  exact fun heq => h (inv_injective (mul_left_cancel₀ hc heq))

theorem act_value (c : Consts ℝ) (r : Row ℝ) (mass : ℝ) (env : Env ℝ) (T : ℝ) :
    rateA env r * atoms0 c r mass *
        actCorrection (rateLam c r) T (actU (fluxOf env r) (initialXS env r) T)
          (actV (rateLam c r) env.fluence (effectiveXS env r) T)
      = rateLam c r * actNp (atoms0 c r mass) (rateA env r) (rateLam c r + rateB env r) T := by
  rw [← actCorrection_mul, actV, add_comm]
  rfl

theorem activityRow_eq (c : Consts ℝ) (r : Row ℝ) (mass : ℝ) (env : Env ℝ) (T : ℝ) :
    activityRow c r mass env T =
      if r.fast = true ∧ env.fastRatio = 0 then .ok none
      else if r.thalf = 0 then .error .zeroDivision
      else match r.reaction with
        | .b =>
          if r.thalfParent = 0 then .error .zeroDivision
          else if ratePlam c r - rateLam c r = 0 then .error .zeroDivision
          else .ok (some (bCore (rateA env r * atoms0 c r mass) (rateLam c r) (ratePlam c r) T))
        | .twoN =>
          if r.thalfParent = 0 then .error .zeroDivision
          else if (rateB env r + ratePlam c r - rateA env r) * (rateLam c r - rateA env r) = 0
            then .error .zeroDivision
          else if (rateA env r - (rateB env r + ratePlam c r)) * (rateLam c r - (rateB env r + ratePlam c r)) = 0
            then .error .zeroDivision
          else if (rateA env r - rateLam c r) * (rateB env r + ratePlam c r - rateLam c r) = 0
            then .error .zeroDivision
          else .ok (some (twoNCore (rateA env r * atoms0 c r mass) (rateLam c r) (ratePlam c r) (rateA env r)
            (rateB env r + ratePlam c r) T))
        | .act =>
          if rateLam c r * actNp (atoms0 c r mass) (rateA env r) (rateLam c r + rateB env r) T < 0
          then .error .runtime
          else .ok (some (rateLam c r * actNp (atoms0 c r mass) (rateA env r) (rateLam c r + rateB env r) T)) := by
  have := act_value c r mass env T
  simp only [activityRow, Bool.and_eq_true, beq_iff_eq, root_eq, l2_eq, pa_eq, twoNDen1, twoNDen2, twoNDen3]
  unfold rateLam ratePlam at *
  rw [this]
  rfl

theorem activityRow_act (c : Consts ℝ) (r : Row ℝ) (mass : ℝ) (env : Env ℝ) (T : ℝ)
    (hr : r.reaction = .act) (hin : ¬ (r.fast = true ∧ env.fastRatio = 0)) (hth : r.thalf ≠ 0) :
    activityRow c r mass env T =
      if rateLam c r * actNp (atoms0 c r mass) (rateA env r) (rateLam c r + rateB env r) T < 0
      then .error .runtime
      else .ok (some (rateLam c r * actNp (atoms0 c r mass) (rateA env r) (rateLam c r + rateB env r) T)) := by
  rw [activityRow_eq, if_neg hin, if_neg hth, hr]

theorem activityRow_b (c : Consts ℝ) (r : Row ℝ) (mass : ℝ) (env : Env ℝ) (T : ℝ)
    (hr : r.reaction = .b) (hin : ¬ (r.fast = true ∧ env.fastRatio = 0)) (hth : r.thalf ≠ 0)
    (hthp : r.thalfParent ≠ 0) (hlam : rateLam c r ≠ 0) (hne : ratePlam c r - rateLam c r ≠ 0) :
    activityRow c r mass env T =
      .ok (some (rateLam c r * bD (rateA env r * atoms0 c r mass) (ratePlam c r) (rateLam c r) T)) := by
  rw [activityRow_eq, if_neg hin, if_neg hth, hr]
  simp only
  rw [if_neg hthp, if_neg hne, bCore_eq _ _ _ _ hlam hne]

theorem activityRow_twoN (c : Consts ℝ) (r : Row ℝ) (mass : ℝ) (env : Env ℝ) (T : ℝ)
    (hr : r.reaction = .twoN) (hin : ¬ (r.fast = true ∧ env.fastRatio = 0)) (hth : r.thalf ≠ 0)
    (hthp : r.thalfParent ≠ 0)
    (h12 : (rateB env r + ratePlam c r) - rateA env r ≠ 0) (h13 : rateLam c r - rateA env r ≠ 0)
    (h23 : rateLam c r - (rateB env r + ratePlam c r) ≠ 0) :
    activityRow c r mass env T =
      .ok (some (rateLam c r * nN3 (rateA env r * atoms0 c r mass) (rateB env r) (rateA env r)
        (rateB env r + ratePlam c r) (rateLam c r) T)) := by
  have h21 := sub_ne_zero.mpr (sub_ne_zero.mp h12).symm
  have h31 := sub_ne_zero.mpr (sub_ne_zero.mp h13).symm
  have h32 := sub_ne_zero.mpr (sub_ne_zero.mp h23).symm
  rw [activityRow_eq, if_neg hin, if_neg hth, hr]
  simp only
  rw [if_neg hthp, if_neg (mul_ne_zero h12 h13), if_neg (mul_ne_zero h21 h23), if_neg (mul_ne_zero h31 h32),
    twoNCore_eq, add_sub_cancel_right]

/-- the inputs the property quantifies over ("physical inputs") -/
structure Physical (c : Consts ℝ) (r : Row ℝ) (mass : ℝ) (env : Env ℝ) (T : ℝ) : Prop where
  ln2 : 0 < c.ln2
  uCi : 0 < c.uCi
  massNumber : 0 < r.a
  thalf : 0 < r.thalf
  xs : 0 ≤ r.thermalXS
  res : 0 ≤ r.resonance
  xsP : 0 ≤ r.thermalXSParent
  resP : 0 ≤ r.resonanceParent
  fluence : 0 ≤ env.fluence
  cd : 0 ≤ env.cdRatio
  fast : 0 ≤ env.fastRatio
  mass : 0 ≤ mass
  exposure : 0 ≤ T

theorem epithermal_nonneg (cd : ℝ) : 0 ≤ epithermal cd := by
  unfold epithermal
  split
  · next h => exact div_nonneg zero_le_one (zero_le_one.trans h)
  · exact le_rfl

section
variable {c : Consts ℝ} {r : Row ℝ} {mass : ℝ} {env : Env ℝ} {T : ℝ}

theorem Physical.initialXS_nonneg (h : Physical c r mass env T) : 0 ≤ initialXS env r :=
  add_nonneg h.xs (mul_nonneg (epithermal_nonneg _) h.res)

theorem Physical.effectiveXS_nonneg (h : Physical c r mass env T) : 0 ≤ effectiveXS env r :=
  add_nonneg h.xsP (mul_nonneg (epithermal_nonneg _) h.resP)

theorem Physical.fluxOf_nonneg (h : Physical c r mass env T) : 0 ≤ fluxOf env r := by
  unfold fluxOf
  split
  · exact div_nonneg h.fluence h.fast
  · exact h.fluence

theorem Physical.rateA_nonneg (h : Physical c r mass env T) : 0 ≤ rateA env r := by
  have := h.fluxOf_nonneg
  have := h.initialXS_nonneg
  unfold rateA
  positivity

theorem Physical.rateB_nonneg (h : Physical c r mass env T) : 0 ≤ rateB env r := by
  have := h.fluence
  have := h.effectiveXS_nonneg
  unfold rateB
  positivity

theorem Physical.rateLam_pos (h : Physical c r mass env T) : 0 < rateLam c r :=
  div_pos h.ln2 h.thalf

theorem Physical.atoms0_nonneg (h : Physical c r mass env T) : 0 ≤ atoms0 c r mass := by
  have := h.mass
  have := h.uCi
  unfold atoms0
  positivity

theorem activityRow_act_ok (h : Physical c r mass env T) (hr : r.reaction = .act)
    (hin : ¬ (r.fast = true ∧ env.fastRatio = 0)) :
    activityRow c r mass env T =
      .ok (some (rateLam c r * actNp (atoms0 c r mass) (rateA env r) (rateLam c r + rateB env r) T))
    ∧ 0 ≤ rateLam c r * actNp (atoms0 c r mass) (rateA env r) (rateLam c r + rateB env r) T := by
  have hnn : 0 ≤ rateLam c r * actNp (atoms0 c r mass) (rateA env r) (rateLam c r + rateB env r) T :=
    mul_nonneg h.rateLam_pos.le
      (actNp_nonneg _ _ _ _ (mul_nonneg h.rateA_nonneg h.atoms0_nonneg) h.exposure)
  refine ⟨?_, hnn⟩
  rw [activityRow_act c r mass env T hr hin (ne_of_gt h.thalf), if_neg (not_lt.mpr hnn)]
end

/-- the hypotheses beyond `Physical` are the conditions under which the code divides: a parent
    half-life where one is read, `λ_parent ≠ λ` for `'b'`, three different rates for `'2n'` -/
theorem activityRow_physical {c : Consts ℝ} {r : Row ℝ} {mass : ℝ} {env : Env ℝ} {T : ℝ}
    (h : Physical c r mass env T) (hp : r.reaction ≠ .act → 0 < r.thalfParent)
    (hb : r.reaction = .b → ratePlam c r - rateLam c r ≠ 0)
    (h2n : r.reaction = .twoN → (rateB env r + ratePlam c r) - rateA env r ≠ 0 ∧
      rateLam c r - rateA env r ≠ 0 ∧ rateLam c r - (rateB env r + ratePlam c r) ≠ 0) :
    activityRow c r mass env T = .ok none ∨ ∃ v, activityRow c r mass env T = .ok (some v) ∧ 0 ≤ v := by
  by_cases hin : r.fast = true ∧ env.fastRatio = 0
  · exact Or.inl (by rw [activityRow_eq, if_pos hin])
  refine Or.inr ?_
  have hR := mul_nonneg h.rateA_nonneg h.atoms0_nonneg
  cases hr : r.reaction with
  | act => exact ⟨_, activityRow_act_ok h hr hin⟩
  | b =>
    have hthp := hp (by rw [hr]; nofun)
    exact ⟨_, activityRow_b c r mass env T hr hin h.thalf.ne' hthp.ne' h.rateLam_pos.ne' (hb hr),
      mul_bD_nonneg _ _ _ T hR (div_pos h.ln2 hthp) h.rateLam_pos (hb hr) h.exposure⟩
  | twoN =>
    obtain ⟨h12, h13, h23⟩ := h2n hr
    exact ⟨_, activityRow_twoN c r mass env T hr hin h.thalf.ne' (hp (by rw [hr]; nofun)).ne' h12 h13 h23,
      mul_nonneg h.rateLam_pos.le
        (nN3_nonneg _ _ _ _ _ T (mul_nonneg hR h.rateB_nonneg) h12 h13 h23 h.exposure)⟩

theorem atoms0_smul (c : Consts ℝ) (r : Row ℝ) (mass k : ℝ) : atoms0 c r (k * mass) = k * atoms0 c r mass := by
  unfold atoms0
  ring

theorem actNp_smul (N0 a c T k : ℝ) : actNp (k * N0) a c T = k * actNp N0 a c T := by
  unfold actNp
  split <;> ring

theorem bCore_smul (root lam plam T k : ℝ) : bCore (k * root) lam plam T = k * bCore root lam plam T := by
  unfold bCore
  ring

theorem twoNCore_smul (root lam plam l2 pa T k : ℝ) :
    twoNCore (k * root) lam plam l2 pa T = k * twoNCore root lam plam l2 pa T := by
  unfold twoNCore
  ring

/-- scaling a result: `none` (omitted) stays omitted, an exception stays that exception -/
def scaleRow (k : ℝ) : Except Err (Option ℝ) → Except Err (Option ℝ)
  | .ok (some v) => .ok (some (k * v))
  | other => other

theorem activityRow_linear_in_mass (c : Consts ℝ) (r : Row ℝ) (mass : ℝ) (env : Env ℝ) (T k : ℝ)
    (hk : 0 < k) :
    activityRow c r (k * mass) env T = scaleRow k (activityRow c r mass env T) := by
  have e (x : ℝ) : k * x < 0 ↔ x < 0 := smul_neg_iff_of_pos_left hk
  -- `scaleRow` goes to the leaves of `activityRow_eq`, and each leaf is linear in `atoms0`
  cases hr : r.reaction
  all_goals
    simp only [activityRow_eq, hr, atoms0_smul, mul_left_comm _ k (atoms0 c r mass), bCore_smul, twoNCore_smul,
      actNp_smul, mul_left_comm _ k (actNp _ _ _ _), e, apply_ite (scaleRow k)]
    rfl

end PtModel.Activation
