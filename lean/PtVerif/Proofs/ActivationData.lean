import PtVerif.Proofs.Activation
import PtVerif.Generated.ActivationDat
import PtVerif.Generated.Constants

/-! Facts about the regenerated `activation.dat` table and the module constants (C14). -/
namespace PtModel.Activation

theorem Dec.toNum_real (d : Dec) : (d.toNum : ℝ) = (d.m : ℝ) * (10:ℝ) ^ d.e := by
  unfold Dec.toNum
  cases d.e with
  | ofNat k => simp [OfScientific.ofScientific, Rat.ofScientific_false_def]
  | negSucc k =>
    simp only
    rw [show (OfScientific.ofScientific d.m true (k+1) : ℝ) = (d.m : ℝ) / (10:ℝ) ^ (k+1) from by
      simp [OfScientific.ofScientific, Rat.ofScientific_true_def, Rat.mkRat_eq_div]]
    rw [Int.negSucc_eq, zpow_neg, div_eq_mul_inv]
    norm_cast

theorem Dec.toNum_nonneg (d : Dec) : 0 ≤ (d.toNum : ℝ) := by
  rw [Dec.toNum_real]
  positivity

theorem Dec.toNum_pos (d : Dec) (h : 0 < d.m) : 0 < (d.toNum : ℝ) := by
  rw [Dec.toNum_real]
  positivity

/-- exact equality test of two decimals (both scaled to the smaller exponent) -/
def Dec.same (x y : Dec) : Bool :=
  x.m * 10 ^ (x.e - min x.e y.e).toNat == y.m * 10 ^ (y.e - min x.e y.e).toNat

/-- the mantissa scaled to a smaller exponent `e0`, as `Dec.same` compares it -/
theorem Dec.toNum_scaled (d : Dec) {e0 : ℤ} (h : e0 ≤ d.e) :
    ((d.m * 10 ^ (d.e - e0).toNat : ℕ) : ℝ) = d.toNum * (10:ℝ) ^ (-e0) := by
  rw [Dec.toNum_real, mul_assoc, ← zpow_add₀ (by norm_num), Nat.cast_mul, Nat.cast_pow, ← zpow_natCast,
    Int.toNat_of_nonneg (sub_nonneg.mpr h), sub_eq_add_neg, Nat.cast_ofNat]

theorem Dec.toNum_ne (x y : Dec) (h : Dec.same x y = false) : (x.toNum : ℝ) ≠ y.toNum := by
  intro heq
  rw [Dec.same, beq_eq_false_iff_ne] at h
  refine h (Nat.cast_injective (R := ℝ) ?_)
  rw [Dec.toNum_scaled x (min_le_left _ _), Dec.toNum_scaled y (min_le_right _ _), heq]

/-- what every row of the table must satisfy for `activity()` to be defined on it: a mass
    number, a positive half-life; for `'b'`/`'2n'` a positive parent half-life; for `'b'` a parent
    half-life different from the daughter's (else `root/(parent_lam - lam)` divides by zero) -/
def rowOk (r : DRow) : Bool :=
  decide (0 < r.a) && decide (0 < r.thalf.m) &&
    (r.reaction == .act ||
      (decide (0 < r.thalfParent.m) && (r.reaction != .b || !Dec.same r.thalfParent r.thalf)))

/-- data fact, re-checked by the kernel against the current activation.dat on every run -/
theorem table_rows_ok : PtGen.ActivationDat.table.all rowOk = true := by decide +kernel

theorem table_nonempty : PtGen.ActivationDat.table ≠ [] := by decide +kernel

theorem rowOk_iff (r : DRow) : rowOk r = true ↔ 0 < r.a ∧ 0 < r.thalf.m ∧
    (r.reaction ≠ .act → 0 < r.thalfParent.m ∧ (r.reaction = .b → Dec.same r.thalfParent r.thalf = false)) := by
  cases hr : r.reaction <;> simp [rowOk, hr, and_assoc]

theorem rowOk_of_mem (r : DRow) (h : r ∈ PtGen.ActivationDat.table) : rowOk r = true :=
  List.all_eq_true.mp table_rows_ok r h

theorem consts_ln2 : (PtGen.ActivationDat.consts : Consts ℝ).ln2 = Real.log 2 := by
  simp [PtGen.ActivationDat.consts, PtGen.ActivationDat.ln2Arg]

theorem consts_ln2_pos : 0 < (PtGen.ActivationDat.consts : Consts ℝ).ln2 := by
  rw [consts_ln2]
  exact Real.log_pos (by norm_num)

theorem consts_uCi_pos : 0 < (PtGen.ActivationDat.consts : Consts ℝ).uCi := by
  exact Dec.toNum_pos PtGen.ActivationDat.uCi (by decide)

/-- the environment part of "physical inputs" -/
structure PhysicalEnv (mass : ℝ) (env : Env ℝ) (T : ℝ) : Prop where
  fluence : 0 ≤ env.fluence
  cd : 0 ≤ env.cdRatio
  fast : 0 ≤ env.fastRatio
  mass : 0 ≤ mass
  exposure : 0 ≤ T

theorem table_row_physical (r : DRow) (hr : r ∈ PtGen.ActivationDat.table) {mass : ℝ} {env : Env ℝ}
    {T : ℝ} (h : PhysicalEnv mass env T) :
    Physical (PtGen.ActivationDat.consts) (r.toRow : Row ℝ) mass env T :=
  have hok := (rowOk_iff r).mp (rowOk_of_mem r hr)
  { ln2 := consts_ln2_pos, uCi := consts_uCi_pos, massNumber := hok.1,
    thalf := Dec.toNum_pos _ hok.2.1, xs := Dec.toNum_nonneg _, res := Dec.toNum_nonneg _,
    xsP := Dec.toNum_nonneg _, resP := Dec.toNum_nonneg _, fluence := h.fluence, cd := h.cd,
    fast := h.fast, mass := h.mass, exposure := h.exposure }

theorem table_row_never_fails (r : DRow) (hr : r ∈ PtGen.ActivationDat.table)
    {mass : ℝ} {env : Env ℝ} {T : ℝ} (h : PhysicalEnv mass env T)
    (h2n : r.reaction = .twoN →
      (rateB env (r.toRow : Row ℝ) + ratePlam (PtGen.ActivationDat.consts) (r.toRow : Row ℝ))
        - rateA env (r.toRow : Row ℝ) ≠ 0 ∧
      rateLam (PtGen.ActivationDat.consts) (r.toRow : Row ℝ) - rateA env (r.toRow : Row ℝ) ≠ 0 ∧
      rateLam (PtGen.ActivationDat.consts) (r.toRow : Row ℝ)
        - (rateB env (r.toRow : Row ℝ) + ratePlam (PtGen.ActivationDat.consts) (r.toRow : Row ℝ)) ≠ 0) :
    activityRow (PtGen.ActivationDat.consts) (r.toRow : Row ℝ) mass env T = .ok none ∨
    ∃ v, activityRow (PtGen.ActivationDat.consts) (r.toRow : Row ℝ) mass env T = .ok (some v) ∧ 0 ≤ v := by
  have hok := ((rowOk_iff r).mp (rowOk_of_mem r hr)).2.2
  refine activityRow_physical (table_row_physical r hr h) (fun hne => Dec.toNum_pos _ (hok hne).1) ?_ h2n
  intro (hb : r.reaction = .b)
  have hne : r.reaction ≠ .act := by
    rw [hb]
    nofun
  exact ratePlam_sub_rateLam_ne_zero consts_ln2_pos.ne' (Dec.toNum_ne _ _ ((hok hne).2 hb))

end PtModel.Activation
