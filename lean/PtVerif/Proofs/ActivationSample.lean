import PtVerif.Proofs.Activation

/-! `activity()` over the rows of one isotope and `Sample.calculate_activation` over the isotopes of a
sample (C14, C15) at `ℝ`: which rows appear, linearity in the mass, the tallies as sums over the
`activity()` calls, and that the activity at removal does not depend on the requested rest times. -/
namespace PtModel.Activation

theorem restDecay_zero (lam act : ℝ) : restDecay lam act [0] = [act] := by
  simp [restDecay]

/-- a successful `activity()` call is built row by row: an omitted row adds nothing, a kept row
    its key with the decayed activities; what holds of every successful call is proved by these cases -/
theorem activity_ok_induction {c : Consts ℝ} {mass : ℝ} {env : Env ℝ} {T : ℝ} {rests : List ℝ}
    {motive : List (Nat × Row ℝ) → List (Nat × List ℝ) → Prop} (nil : motive [] [])
    (skip : ∀ k r more out, activityRow c r mass env T = .ok none → motive more out →
      motive ((k, r) :: more) out)
    (keep : ∀ k r act more out, activityRow c r mass env T = .ok (some act) → motive more out →
      motive ((k, r) :: more) ((k, restDecay (c.ln2 / r.thalf) act rests) :: out))
    (rows : List (Nat × Row ℝ)) (out : List (Nat × List ℝ))
    (h : activity c rows mass env T rests = .ok out) : motive rows out := by
  revert out
  fun_induction activity c rows mass env T rests with
  | case1 =>
    rintro _ ⟨⟩
    exact nil
  | case2 | case4 => nofun  -- a row, or a later row, raises
  | case3 k r more hrow ih => exact fun out h => skip k r more out hrow (ih out h)
  | case5 k r more act hrow out hout ih =>
    rintro _ ⟨⟩
    exact keep k r act more out hrow (ih out hout)

theorem activity_values (c : Consts ℝ) (rows : List (Nat × Row ℝ)) (mass : ℝ) (env : Env ℝ) (T : ℝ)
    (rests : List ℝ) (out : List (Nat × List ℝ)) (h : activity c rows mass env T rests = .ok out) :
    ∀ kv ∈ out, ∃ r act, (kv.1, r) ∈ rows ∧ activityRow c r mass env T = .ok (some act) ∧
      kv.2 = restDecay (c.ln2 / r.thalf) act rests := by
  revert rows out
  refine activity_ok_induction ?_ ?_ ?_
  · nofun
  · intro k r more out _ ih kv hkv
    obtain ⟨r', act, hmem, h'⟩ := ih kv hkv
    exact ⟨r', act, List.mem_cons_of_mem _ hmem, h'⟩
  · intro k r act more out hrow ih kv hkv
    rcases List.mem_cons.mp hkv with rfl | hkv
    · exact ⟨r, act, List.mem_cons_self, hrow, rfl⟩
    · obtain ⟨r', act', hmem, h'⟩ := ih kv hkv
      exact ⟨r', act', List.mem_cons_of_mem _ hmem, h'⟩

theorem activity_length (c : Consts ℝ) (rows : List (Nat × Row ℝ)) (mass : ℝ) (env : Env ℝ) (T : ℝ)
    (times : List ℝ) (out : List (Nat × List ℝ))
    (h : activity c rows mass env T times = .ok out) : ∀ kv ∈ out, kv.2.length = times.length := by
  intro kv hkv
  obtain ⟨r, act, _, _, hval⟩ := activity_values c rows mass env T times out h kv hkv
  rw [hval, restDecay, List.length_map]

theorem runJobs_ok_iff (c : Consts ℝ) (rowsOf : Nat → Nat → List (Nat × Row ℝ)) (env : Env ℝ) (T : ℝ)
    (times : List ℝ) (jobs : List (Nat × Nat × ℝ)) (results : List (List (Nat × List ℝ))) :
    runJobs c rowsOf env T times jobs = .ok results ↔
    List.Forall₂ (fun job res => activity c (rowsOf job.1 job.2.1) job.2.2 env T times = .ok res)
      jobs results := by
  induction jobs generalizing results with
  | nil => cases results <;> simp [runJobs]
  | cons job more ih =>
    unfold runJobs
    constructor
    · intro h
      split at h
      · cases h
      · rename_i res hres
        split at h
        · cases h
        · rename_i out hout
          cases h
          exact List.Forall₂.cons hres ((ih out).mp hout)
    · rintro (_ | ⟨hres, hrest⟩)
      rw [hres, (ih _).mpr hrest]

theorem calcActivation_ok_iff (c : Consts ℝ) (rowsOf : Nat → Nat → List (Nat × Row ℝ)) (mass : ℝ)
    (env : Env ℝ) (T : ℝ) (rests : List ℝ) (parts : List (Part ℝ)) (tally : Tally ℝ) :
    calcActivation c rowsOf mass env T rests parts = .ok tally ↔
    ∃ results, List.Forall₂
        (fun job res => activity c (rowsOf job.1 job.2.1) job.2.2 env T (0 :: rests) = .ok res)
        (isoJobs mass parts) results ∧
      results.foldl (accumulate rests.length) {} = tally := by
  simp only [← runJobs_ok_iff]
  unfold calcActivation
  split <;> rename_i h <;> simp [h]

/-- value stored under row `k` (0 if absent) -/
def lookR (t : List (Nat × ℝ)) (k : Nat) : ℝ :=
  match t with
  | [] => 0
  | (k', x) :: rest => if k' = k then x else lookR rest k

/-- what one `activity()` result adds to the removal tally of row `k` -/
noncomputable def headSum (res : List (Nat × List ℝ)) (k : Nat) : ℝ :=
  (res.map fun kv => if kv.1 = k then kv.2.headD 0 else 0).sum

theorem lookR_bump (t : List (Nat × ℝ)) (k : Nat) (v : ℝ) (k' : Nat) :
    lookR (bumpRemoval t k v) k' = lookR t k' + (if k = k' then v else 0) := by
  induction t with
  | nil =>
    simp only [bumpRemoval, lookR]
    split <;> simp
  | cons e rest ih =>
    obtain ⟨k0, x⟩ := e
    unfold bumpRemoval
    by_cases h0 : k0 = k
    · subst h0
      simp only [if_true, lookR]
      by_cases h1 : k0 = k' <;> simp [h1]
    · simp only [h0, if_false, lookR, ih]
      by_cases h1 : k0 = k'
      · have : ¬ k = k' := fun h => h0 (h1.trans h.symm)
        simp [h1, this]
      · simp [h1]

/-- list stored under row `k` (`[]` if absent) -/
def lookT (t : List (Nat × List ℝ)) (k : Nat) : List ℝ :=
  match t with
  | [] => []
  | (k', x) :: rest => if k' = k then x else lookT rest k

/-- what one `activity()` result adds to column `j` of row `k` of the table -/
noncomputable def colSum (res : List (Nat × List ℝ)) (k j : Nat) : ℝ :=
  (res.map fun kv => if kv.1 = k then kv.2.tail.getD j 0 else 0).sum

theorem addLists_eq_zipWith (x y : List ℝ) : addLists x y = List.zipWith (· + ·) x y := by
  induction x generalizing y with
  | nil => cases y <;> rfl
  | cons a xs ih => cases y with
    | nil => rfl
    | cons b ys => rw [addLists, ih, List.zipWith_cons_cons]

theorem addLists_length (x y : List ℝ) : (addLists x y).length = min x.length y.length := by
  rw [addLists_eq_zipWith, List.length_zipWith]

theorem addLists_getD (x y : List ℝ) (j : Nat) (hx : j < x.length) (hy : j < y.length) :
    (addLists x y).getD j 0 = x.getD j 0 + y.getD j 0 := by
  simp only [addLists_eq_zipWith, List.getD_eq_getElem?_getD, List.getElem?_zipWith, List.getElem?_eq_getElem hx,
    List.getElem?_eq_getElem hy, Option.getD_some]

/-- all stored rows have `n` columns (`addLists` cuts to the shorter list, so only then does a bump
    add entry by entry) -/
def Wide (n : Nat) (t : List (Nat × List ℝ)) : Prop := ∀ kv ∈ t, kv.2.length = n

theorem wide_bumpTable (n : Nat) (t : List (Nat × List ℝ)) (k : Nat) (v : List ℝ)
    (ht : Wide n t) (hv : v.length = n) : Wide n (bumpTable n t k v) := by
  have hadd (x : List ℝ) (hx : x.length = n) : (addLists x v).length = n := by
    rw [addLists_length, hx, hv, min_self]
  induction t with
  | nil => exact List.forall_mem_singleton.mpr (hadd _ List.length_replicate)
  | cons e rest ih =>
    obtain ⟨hx, hrest⟩ := List.forall_mem_cons.mp ht
    rw [bumpTable]
    split
    · exact List.forall_mem_cons.mpr ⟨hadd _ hx, hrest⟩
    · exact List.forall_mem_cons.mpr ⟨hx, ih hrest⟩

theorem lookT_bump (n : Nat) (t : List (Nat × List ℝ)) (k : Nat) (v : List ℝ) (k' j : Nat)
    (ht : Wide n t) (hv : v.length = n) (hj : j < n) :
    (lookT (bumpTable n t k v) k').getD j 0
      = (lookT t k').getD j 0 + (if k = k' then v.getD j 0 else 0) := by
  induction t with
  | nil =>
    rw [bumpTable, lookT, lookT, lookT, List.getD_nil, zero_add]
    split
    · rw [addLists_getD _ _ j (by rwa [List.length_replicate]) (hv ▸ hj), List.getD_eq_getElem?_getD,
        List.getElem?_replicate_of_lt hj, Option.getD_some, zero_add]
    · rfl
  | cons e rest ih =>
    obtain ⟨hx, hrest⟩ := List.forall_mem_cons.mp ht
    rw [bumpTable]
    split
    · next he =>
      subst he
      rw [lookT, lookT]
      split
      · exact addLists_getD _ _ j (hx ▸ hj) (hv ▸ hj)
      · rw [add_zero]
    · next he =>
      rw [lookT, lookT]
      split
      · next hk => rw [if_neg fun h => he (hk.trans h.symm), add_zero]
      · exact ih hrest

/-- the two tallies do not interact: each is the fold of its own `bump` over all results in order -/
theorem foldl_accumulate (n : Nat) (s : Tally ℝ) (results : List (List (Nat × List ℝ))) :
    results.foldl (accumulate n) s =
      { removal := results.flatten.foldl (fun t kv => bumpRemoval t kv.1 (kv.2.headD 0)) s.removal
        table := results.flatten.foldl (fun t kv => bumpTable n t kv.1 kv.2.tail) s.table } := by
  unfold accumulate
  rw [← List.foldl_flatten]
  induction results.flatten generalizing s with
  | nil => rfl
  | cons kv more ih =>
    rw [List.foldl_cons, ih]
    rfl

theorem lookR_foldl_bump {ι : Type} (key : ι → Nat) (val : ι → ℝ) (l : List ι) (t : List (Nat × ℝ)) (k : Nat) :
    lookR (l.foldl (fun t x => bumpRemoval t (key x) (val x)) t) k
      = lookR t k + (l.map fun x => if key x = k then val x else 0).sum := by
  induction l generalizing t with
  | nil => simp
  | cons x more ih => rw [List.foldl_cons, ih, lookR_bump, List.map_cons, List.sum_cons, add_assoc]

theorem lookT_foldl_bump {ι : Type} (key : ι → Nat) (val : ι → List ℝ) (n : Nat) (l : List ι)
    (t : List (Nat × List ℝ)) (k j : Nat) (ht : Wide n t) (hl : ∀ x ∈ l, (val x).length = n) (hj : j < n) :
    (lookT (l.foldl (fun t x => bumpTable n t (key x) (val x)) t) k).getD j 0
      = (lookT t k).getD j 0 + (l.map fun x => if key x = k then (val x).getD j 0 else 0).sum := by
  induction l generalizing t with
  | nil => simp
  | cons x more ih =>
    obtain ⟨hx, hmore⟩ := List.forall_mem_cons.mp hl
    rw [List.foldl_cons, ih _ (wide_bumpTable n t _ _ ht hx) hmore, lookT_bump n t _ _ k j ht hx hj, List.map_cons,
      List.sum_cons, add_assoc]

theorem lookR_foldl_accumulate (n : Nat) (s : Tally ℝ) (results : List (List (Nat × List ℝ))) (k : Nat) :
    lookR (results.foldl (accumulate n) s).removal k
      = lookR s.removal k + (results.map fun res => headSum res k).sum := by
  rw [foldl_accumulate, lookR_foldl_bump, List.map_flatten, List.sum_flatten, List.map_map]
  rfl

theorem lookT_foldl_accumulate (n : Nat) (s : Tally ℝ) (results : List (List (Nat × List ℝ))) (k j : Nat)
    (hs : Wide n s.table) (hres : ∀ kv ∈ results.flatten, kv.2.length = n + 1) (hj : j < n) :
    (lookT (results.foldl (accumulate n) s).table k).getD j 0
      = (lookT s.table k).getD j 0 + (results.map fun res => colSum res k j).sum := by
  rw [foldl_accumulate, lookT_foldl_bump _ _ n _ _ k j hs ?_ hj, List.map_flatten, List.sum_flatten, List.map_map]
  · rfl
  · intro kv hkv
    rw [List.length_tail, hres kv hkv, Nat.add_sub_cancel]

def scaleOut (k : ℝ) (out : List (Nat × List ℝ)) : List (Nat × List ℝ) :=
  out.map fun kv => (kv.1, kv.2.map (k * ·))

theorem restDecay_smul (lam act k : ℝ) (rests : List ℝ) :
    restDecay lam (k * act) rests = (restDecay lam act rests).map (k * ·) := by
  rw [restDecay, restDecay, List.map_map]
  exact List.map_congr_left fun t _ => mul_assoc k act _

theorem activity_linear_in_mass (c : Consts ℝ) (rows : List (Nat × Row ℝ)) (mass : ℝ) (env : Env ℝ)
    (T : ℝ) (rests : List ℝ) (k : ℝ) (hk : 0 < k) (out : List (Nat × List ℝ))
    (h : activity c rows mass env T rests = .ok out) :
    activity c rows (k * mass) env T rests = .ok (scaleOut k out) := by
  revert rows out
  refine activity_ok_induction rfl ?_ ?_
  · intro i r more out hrow ih
    rw [activity, activityRow_linear_in_mass c r mass env T k hk, hrow]
    exact ih
  · intro i r act more out hrow ih
    rw [activity, activityRow_linear_in_mass c r mass env T k hk, hrow]
    simp only [scaleRow, ih, scaleOut, List.map_cons, restDecay_smul]

theorem headSum_scaleOut (k : ℝ) (out : List (Nat × List ℝ)) (i : Nat) :
    headSum (scaleOut k out) i = k * headSum out i := by
  unfold headSum scaleOut
  rw [List.map_map, ← List.sum_map_mul_left]
  refine congrArg List.sum (List.map_congr_left fun kv _ => ?_)
  show (if kv.1 = i then (kv.2.map (k * ·)).headD 0 else 0) = k * if kv.1 = i then kv.2.headD 0 else 0
  split
  · cases kv.2 with
    | nil => exact (mul_zero k).symm
    | cons x xs => rfl
  · exact (mul_zero k).symm

/-- isotopes of one natural element: `(A, abundance in %)` -/
def naturalPart (frac : ℝ) (z : Nat) (isos : List (Nat × ℝ)) : Part ℝ :=
  { frac := frac, isos := isos.map fun ia => { z := z, a := ia.1, share := some ia.2 } }

theorem natural_jobs_results (c : Consts ℝ) (rowsOf : Nat → Nat → List (Nat × Row ℝ)) (mass frac : ℝ)
    (env : Env ℝ) (T : ℝ) (times : List ℝ) (z : Nat) (isos : List (Nat × ℝ))
    (hm : 0 < mass * frac) (hab : ∀ ia ∈ isos, 0 ≤ ia.2)
    (pure : Nat → List (Nat × List ℝ))
    (hpure : ∀ ia ∈ isos, activity c (rowsOf z ia.1) (mass * frac) env T times = .ok (pure ia.1)) :
    ∃ results, List.Forall₂
        (fun job res => activity c (rowsOf job.1 job.2.1) job.2.2 env T times = .ok res)
        (isoJobs mass [naturalPart frac z isos]) results ∧
      ∀ k, (results.map fun res => headSum res k).sum
        = (isos.map fun ia => ia.2 * 0.01 * headSum (pure ia.1) k).sum := by
  induction isos with
  | nil => exact ⟨[], by simp [isoJobs, naturalPart], fun k => by simp⟩
  | cons ia more ih =>
    obtain ⟨results, hrun, hsum⟩ := ih (fun x hx => hab x (List.mem_cons_of_mem _ hx))
      (fun x hx => hpure x (List.mem_cons_of_mem _ hx))
    simp only [isoJobs, naturalPart, List.flatMap_cons, List.flatMap_nil, List.append_nil,
      List.map_cons, List.filterMap_cons] at hrun ⊢
    rcases (hab ia List.mem_cons_self).eq_or_lt with h0 | h0
    · -- zero abundance: the isotope is skipped, and its term of the sum is 0
      have hskip : isoMass mass frac { z := z, a := ia.1, share := some ia.2 } = none := by
        simp [isoMass, ← h0]
      simp only [hskip, Option.map_none]
      refine ⟨results, hrun, fun k => ?_⟩
      rw [hsum k, List.sum_cons, ← h0, zero_mul, zero_mul, zero_add]
    · have hne : mass * frac * ia.2 * 0.01 ≠ 0 := (mul_pos (mul_pos hm h0) (by norm_num)).ne'
      have hkeep : isoMass mass frac { z := z, a := ia.1, share := some ia.2 }
          = some (mass * frac * ia.2 * 0.01) := by
        simp [isoMass, hne]
      simp only [hkeep, Option.map_some]
      have hlin := activity_linear_in_mass c (rowsOf z ia.1) (mass * frac) env T times (ia.2 * 0.01)
        (mul_pos h0 (by norm_num)) (pure ia.1) (hpure ia List.mem_cons_self)
      rw [show ia.2 * 0.01 * (mass * frac) = mass * frac * ia.2 * 0.01 by ring] at hlin
      exact ⟨scaleOut (ia.2 * 0.01) (pure ia.1) :: results, List.Forall₂.cons hlin hrun, fun k => by
        simp only [List.map_cons, List.sum_cons, headSum_scaleOut, hsum k]⟩

/-- `(row, activity at removal)` of one `activity()` result -/
def heads (res : List (Nat × List ℝ)) : List (Nat × ℝ) := res.map fun kv => (kv.1, kv.2.headD 0)

theorem activity_heads_eq (c : Consts ℝ) (rows : List (Nat × Row ℝ)) (mass : ℝ) (env : Env ℝ) (T : ℝ)
    (rests rests' : List ℝ) (out : List (Nat × List ℝ))
    (h : activity c rows mass env T (0 :: rests) = .ok out) :
    ∃ out', activity c rows mass env T (0 :: rests') = .ok out' ∧ heads out' = heads out := by
  revert rows out
  refine activity_ok_induction ⟨[], rfl, rfl⟩ ?_ ?_
  · intro i r more out hrow ⟨out', h', hs⟩
    refine ⟨out', ?_, hs⟩
    rw [activity, hrow]
    exact h'
  · intro i r act more out hrow ⟨out', h', hs⟩
    refine ⟨(i, restDecay (c.ln2 / r.thalf) act (0 :: rests')) :: out', ?_, ?_⟩
    · rw [activity, hrow]
      simp only [h']
    · simp only [heads, List.map_cons, restDecay, List.headD_cons] at hs ⊢
      rw [hs]

/-- `_activity_at_removal` – the very list `decay_time` reads – is the same whatever rest times
    were requested -/
theorem calcActivation_removal_list_independent (c : Consts ℝ) (rowsOf : Nat → Nat → List (Nat × Row ℝ))
    (mass : ℝ) (env : Env ℝ) (T : ℝ) (rests rests' : List ℝ) (parts : List (Part ℝ)) (tally : Tally ℝ)
    (h : calcActivation c rowsOf mass env T rests parts = .ok tally) :
    ∃ tally', calcActivation c rowsOf mass env T rests' parts = .ok tally' ∧
      tally'.removal = tally.removal := by
  obtain ⟨results, hall, rfl⟩ := (calcActivation_ok_iff ..).mp h
  obtain ⟨results', hall', hs'⟩ : ∃ results', List.Forall₂
        (fun job res => activity c (rowsOf job.1 job.2.1) job.2.2 env T (0 :: rests') = .ok res)
        (isoJobs mass parts) results' ∧ heads results'.flatten = heads results.flatten := by
    clear h
    generalize isoJobs mass parts = jobs at hall
    induction hall with
    | nil => exact ⟨[], List.Forall₂.nil, rfl⟩
    | cons hres _ ih =>
      obtain ⟨rs', hf', hs'⟩ := ih
      obtain ⟨out', ho', hh'⟩ := activity_heads_eq c _ _ env T rests rests' _ hres
      refine ⟨out' :: rs', List.Forall₂.cons ho' hf', ?_⟩
      unfold heads at hh' hs' ⊢
      rw [List.flatten_cons, List.flatten_cons, List.map_append, List.map_append, hh', hs']
  refine ⟨_, (calcActivation_ok_iff ..).mpr ⟨results', hall', rfl⟩, ?_⟩
  -- the removal tally is a fold of `bumpRemoval` over `heads results.flatten`, the list `hs'` equates
  have := congrArg (List.foldl (fun t p => bumpRemoval t p.1 p.2) []) hs'
  rw [heads, heads, List.foldl_map, List.foldl_map] at this
  rw [foldl_accumulate, foldl_accumulate]
  exact this

/-- … and so is every entry looked up in it -/
theorem calcActivation_removal_independent (c : Consts ℝ) (rowsOf : Nat → Nat → List (Nat × Row ℝ))
    (mass : ℝ) (env : Env ℝ) (T : ℝ) (rests rests' : List ℝ) (parts : List (Part ℝ)) (tally : Tally ℝ)
    (h : calcActivation c rowsOf mass env T rests parts = .ok tally) :
    ∃ tally', calcActivation c rowsOf mass env T rests' parts = .ok tally' ∧
      ∀ k, lookR tally'.removal k = lookR tally.removal k := by
  obtain ⟨tally', h1, h2⟩ := calcActivation_removal_list_independent c rowsOf mass env T rests rests' parts tally h
  exact ⟨tally', h1, fun k => by rw [h2]⟩

end PtModel.Activation
