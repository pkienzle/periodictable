import PtVerif.Proofs.Loaders
import PtVerif.Proofs.TableCheck
import PtVerif.Model.Ancillary
/-!
# What the ancillary loaders serve (core Lean only)

Every loader of C20 is a fold consing one binding per row, so what it serves under a key is the
last row of that key (`cov_served`, `lines_served`, `mag_served`, `cm_served`, and
`Crystal.loadGo_eq` for the indexed list).  C20 reads off these: with distinct keys each element
(or charge state, or symbol) is served its own row, with repeated keys the last one, and keys no
row has are not bound at all (`None` / no attribute, never a neighbour's data).
-/
namespace PtLoad

/-! ## covalent radius -/

section cov
variable {α : Type} [Mul α] [Div α] [NatCast α] [IntCast α]

def covKey : CovRow → Option Nat
  | .skip => none
  | .row z _ _ => some z

/-- radius and uncertainty a Cordero line gives (nothing for an alternate spin state) -/
def covVal : CovRow → Option (α × Option α)
  | .skip => none
  | .row _ r dr => some ((r.toNum : α), some (dr.toNum * (Dec.mk 1 2).toNum))

theorem cov_served (rows : List CovRow) (z : Nat) :
    aget z (Cov.loadRows (α := α) rows) = lastOf (fun x => covKey x = some z) (covVal (α := α)) rows
      (aget z [(0, ((Dec.mk 20 2).toNum, none))]) :=
  foldl_lastOf (aget z) (fun l x => by cases x <;> simp [covStep, covKey, covVal, aget_cons]) rows _

end cov

/-! ## crystal structure: list index = Z -/

/-- `enumerate`: the loop is a fold over the slots paired with their indices -/
theorem Crystal.loadGo_eq (i : Nat) (l : List (Option Crystal)) (acc : List (Nat × Option Crystal)) :
    Crystal.loadGo i l acc = (l.zipIdx i).foldl (fun acc x => (x.2, x.1) :: acc) acc := by
  induction l generalizing i acc with
  | nil => rfl
  | cons s rest ih => exact ih ..

/-! ## emission lines -/

theorem lines_served (zOf : Nat → Option Nat) (rows : List LineRow) (z : Nat) :
    aget z (Lines.loadRows zOf rows)
      = lastOf (fun r => zOf r.sym = some z) (fun r => some (r.kAlpha, r.kBeta1)) rows none :=
  foldl_lastOf (aget z) (fun l r => by cases h : zOf r.sym <;> simp [aget_cons]) rows []

/-! ## magnetic form factors -/

theorem MagRec.get_set (r : MagRec) (j j' : Jn) (v : List Dec) :
    (r.set j v).get j' = if j = j' then some v else r.get j' := by
  cases j <;> cases j' <;> rfl

theorem mag_served (zOf : Nat → Option Nat) (rows : List MagRow) (z q : Nat) (jn : Jn) :
    ((aget (z, q) (Mag.loadRows zOf rows)).getD {}).get jn
      = lastOf (fun r => zOf r.sym = some z ∧ r.charge = q ∧ r.jn = jn) (fun r => some r.values)
          rows none := by
  refine (foldl_lastOf (p := fun r : MagRow => zOf r.sym = some z ∧ r.charge = q ∧ r.jn = jn)
    (fun l : List ((Nat × Nat) × MagRec) => ((aget (z, q) l).getD {}).get jn)
    (fun l r => ?_) rows []).trans (by cases jn <;> rfl)
  -- only a row of this charge state touches its record, and `set` only the row's own kind
  cases hz : zOf r.sym with
  | none => simp
  | some z' =>
    by_cases hk : (z, q) = (z', r.charge)
    · cases hk
      simp [MagRec.get_set]
    · rw [if_neg fun ⟨e1, e2, _⟩ => hk (by cases e1; rw [e2])]
      simp only [aget_cons_ne hk]

/-! ## Cromer-Mann entries -/

theorem cm_served (es : List CMEntry) (s : String) :
    aget s (CM.load es) = lastOf (fun e => e.symbol = s) some es none :=
  foldl_lastOf (aget s) (fun l e => aget_cons e.symbol s e l) es []

/-- **`getCMformula(symbol)` returns the (last) entry with that symbol** – with its own
    a1..a5, c, b1..b5 -/
theorem cm_entry_last (pre post : List CMEntry) (e : CMEntry) (hlast : ∀ x ∈ post, x.symbol ≠ e.symbol) :
    aget e.symbol (CM.load (pre ++ e :: post)) = some e := by
  rw [cm_served]
  exact lastOf_last hlast rfl _

/-! ## helpers for the embedded tables -/

/-- entries that name the same symbol, charge and kind carry the same values (checked pairwise,
    kind by kind) -/
def magAgree (rows : List MagRow) : Bool :=
  [Jn.j0, .J, .j2, .j4, .j6].all fun j =>
    PtCheck.agree ((rows.filter fun r => r.jn == j).map fun r => (r.sym * 1024 + r.charge, r.values))

theorem magAgree_sound (rows : List MagRow) (h : magAgree rows = true) (r x : MagRow)
    (hr : r ∈ rows) (hx : x ∈ rows) (hs : x.sym = r.sym) (hq : x.charge = r.charge) (hj : x.jn = r.jn) :
    x.values = r.values := by
  have h := List.all_eq_true.mp h r.jn (by cases r.jn <;> simp)
  exact PtCheck.eq_of_agree h
    (List.mem_map_of_mem (f := fun r : MagRow => (r.sym * 1024 + r.charge, r.values))
      (List.mem_filter.mpr ⟨hx, by simp [hj]⟩))
    (List.mem_map_of_mem (List.mem_filter.mpr ⟨hr, by simp⟩)) (by simp [hs, hq])

/-! ## which f0 entry an element or ion looks up -/

/-- a character `cmKey` strips from the end of the symbol before it appends the charge:
    `symbol.rstrip('012345678+-')` of cromermann.py (no `9`) -/
def cmSuffixChar (c : Char) : Bool := "012345678+-".toList.contains c

end PtLoad
