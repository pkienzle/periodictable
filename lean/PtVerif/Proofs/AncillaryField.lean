import PtVerif.Proofs.Ancillary
import PtVerif.Proofs.LoadersField
/-!
# Form-factor facts (Mathlib, over ℝ)

`sSq` in closed form and at 0, the form factors at Q = 0, and the exact-rational checks
(`j0Ok`, `f0Ok`) that C20 evaluates on the embedded tables, with what `j0Ok` means over ℝ.
-/
namespace PtLoad

theorem sSq_zero : sSq (0 : ℝ) = 0 := by
  unfold sSq
  simp

theorem sSq_real (q : ℝ) : sSq q = (q / (4 * Real.pi)) ^ 2 := by
  unfold sSq
  rw [pow_two]
  rfl

theorem formfactor0_zero (A a B b C c D : ℝ) :
    formfactor0 [A, a, B, b, C, c, D] 0 = some (A + B + C + D) := by
  simp only [formfactor0, sSq_zero, mul_zero]
  simp [Transc.exp]

theorem formfactorN_zero (j : List ℝ) (h : j.length = 7) : formfactorN j 0 = some 0 := by
  match j, h with
  | [_, _, _, _, _, _, _], _ => simp only [formfactorN, sSq_zero, zero_mul]

theorem Dec.toRat_cast (d : Dec) : ((d.toRat : ℚ) : ℝ) = (d.toNum : ℝ) := by
  unfold Dec.toRat Dec.toNum
  push_cast
  rfl

/-- `|A + B + C + D − 1| ≤ 0.005`, checked in exact rationals -/
def j0Ok (vs : List Dec) : Bool :=
  match vs with
  | [A, _, B, _, C, _, D] =>
    let s := A.toRat + B.toRat + C.toRat + D.toRat
    decide (s - 1 ≤ 5 / 1000) && decide (1 - s ≤ 5 / 1000)
  | _ => false

theorem j0_zero_of_ok (vs : List Dec) (h : j0Ok vs = true) :
    ∃ x : ℝ, formfactor0 (vs.map fun d => (d.toNum : ℝ)) 0 = some x ∧ |x - 1| ≤ 0.005 := by
  unfold j0Ok at h
  split at h
  · rename_i A a B b C c D
    rw [Bool.and_eq_true, decide_eq_true_eq, decide_eq_true_eq] at h
    refine ⟨_, formfactor0_zero .., ?_⟩
    -- the two inequalities checked in ℚ are `|x - 1| ≤ 5/1000` in ℝ
    have h1 := (Rat.cast_le (K := ℝ)).mpr h.1
    have h2 := (Rat.cast_le (K := ℝ)).mpr h.2
    simp only [Rat.cast_sub, Rat.cast_add, Rat.cast_one, Dec.toRat_cast] at h1 h2
    rw [show (0.005 : ℝ) = ((5 / 1000 : ℚ) : ℝ) by norm_num]
    exact abs_sub_le_iff.mpr ⟨h1, h2⟩
  · cases h

/-- `|Σa + c − (Z − q)| ≤ 0.05`, in exact rationals, and five `a`, five `b`, for an entry that names
    an atom or ion `(Z, some q)`; a valence entry `(Z, none)` passes unexamined -/
def f0Ok (e : CMEntry) (zq : Nat × Option Int) : Bool :=
  match zq.2 with
  | none => true
  | some q =>
    let s : Rat := (e.a.map Dec.toRat).foldl (· + ·) 0 + e.c.toRat
    let n : Rat := ((zq.1 : Int) - q : Int)
    decide (s - n ≤ 5 / 100) && decide (n - s ≤ 5 / 100) && e.a.length == 5 && e.b.length == 5

end PtLoad
