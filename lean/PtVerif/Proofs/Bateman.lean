import Mathlib.Analysis.SpecialFunctions.ExpDeriv
import Mathlib.Analysis.Calculus.Deriv.MeanValue

/-! The one chain behind all three branches of `activity()`: a source `x` that burns away at the
rate `l2`, feeding `N₂` (lost at `pa`), whose captures `cap·N₂` feed `N₃` (lost at `p2`).  Single
capture is its first two stages, `'b'` is the chain with a constant source (`l2 = 0`, `cap = pa`).
Each stage is the divided difference, in the loss rate, of two copies of the stage before it
(`hasDerivAt_stage`, `nN3_eq`).  Pure analysis: nothing of the model is used here. -/
namespace PtModel.Activation

/-- `e^{-kt}` solves `y' = 0 - k·y`: the stage without a source -/
theorem hasDerivAt_exp_neg_mul (k t : ℝ) :
    HasDerivAt (fun t => Real.exp (-(k * t))) (0 - k * Real.exp (-(k * t))) t :=
  ((hasDerivAt_id' t).const_mul k).fun_neg.exp.congr_deriv (by ring)

theorem exp_neg_mul_add (k s t : ℝ) :
    Real.exp (-(k * (s + t))) = Real.exp (-(k * s)) * Real.exp (-(k * t)) := by
  rw [← Real.exp_add, mul_add, neg_add]

/-- the step from one stage of the chain to the next: if `f` and `g` are fed by the same source and
    lost at the rates `a` and `c`, their divided difference `q·(f - g)/(c - a)` is what `q·f` feeds
    and `c` removes -/
theorem hasDerivAt_stage {f g : ℝ → ℝ} {s a c t : ℝ} (q : ℝ) (h : c - a ≠ 0)
    (hf : HasDerivAt f (s - a * f t) t) (hg : HasDerivAt g (s - c * g t) t) :
    HasDerivAt (fun t => q / (c - a) * (f t - g t)) (q * f t - c * (q / (c - a) * (f t - g t))) t :=
  ((hf.sub hg).const_mul (q / (c - a))).congr_deriv <| by
    field_simp
    ring

/-- production rate of the parent, `x = l2·N₁`: `x' = -l2·x`, `x(0) = R` -/
noncomputable def nX (R l2 t : ℝ) : ℝ := R * Real.exp (-(l2 * t))
/-- parent atoms: `N₂' = x - pa·N₂`, `N₂(0) = 0` (`pa` = capture + decay of the parent) -/
noncomputable def nN2 (R l2 pa t : ℝ) : ℝ := R / (pa - l2) * (Real.exp (-(l2 * t)) - Real.exp (-(pa * t)))
/-- product atoms: `N₃' = cap·N₂ - p2·N₃`, `N₃(0) = 0` (only the captures `cap` of the parent feed it) -/
noncomputable def nN3 (R cap l2 pa p2 t : ℝ) : ℝ :=
  R * cap * (Real.exp (-(l2 * t)) / ((pa - l2) * (p2 - l2))
    + Real.exp (-(pa * t)) / ((l2 - pa) * (p2 - pa))
    + Real.exp (-(p2 * t)) / ((l2 - p2) * (pa - p2)))

theorem nX_deriv (R l2 t : ℝ) : HasDerivAt (nX R l2) (-l2 * nX R l2 t) t :=
  ((hasDerivAt_exp_neg_mul l2 t).const_mul R).congr_deriv (by unfold nX; ring)

theorem nN2_deriv (R l2 pa t : ℝ) (h12 : pa - l2 ≠ 0) :
    HasDerivAt (nN2 R l2 pa) (nX R l2 t - pa * nN2 R l2 pa t) t :=
  hasDerivAt_stage R h12 (hasDerivAt_exp_neg_mul l2 t) (hasDerivAt_exp_neg_mul pa t)

theorem nX_zero (R l2 : ℝ) : nX R l2 0 = R := by simp [nX]
theorem nN2_zero (R l2 pa : ℝ) : nN2 R l2 pa 0 = 0 := by simp [nN2]

theorem exp_diff_div_nonneg (a c T : ℝ) (hT : 0 ≤ T) :
    0 ≤ (Real.exp (-(a * T)) - Real.exp (-(c * T))) / (c - a) := by
  rcases le_total a c with h | h
  · have := Real.exp_le_exp.mpr (neg_le_neg (mul_le_mul_of_nonneg_right h hT))
    exact div_nonneg (sub_nonneg.mpr this) (sub_nonneg.mpr h)
  · have := Real.exp_le_exp.mpr (neg_le_neg (mul_le_mul_of_nonneg_right h hT))
    exact div_nonneg_of_nonpos (sub_nonpos.mpr this) (sub_nonpos.mpr h)

theorem nN2_nonneg (R l2 pa T : ℝ) (hR : 0 ≤ R) (hT : 0 ≤ T) : 0 ≤ nN2 R l2 pa T := by
  rw [nN2, div_mul_eq_mul_div, mul_div_assoc]
  exact mul_nonneg hR (exp_diff_div_nonneg l2 pa T hT)

/-- what is there at `T` decays with the source, and what is made after `T` is a chain started then -/
theorem nN2_add (R l2 pa T s : ℝ) :
    nN2 R l2 pa (T + s) = nN2 R l2 pa T * Real.exp (-(l2 * s)) + Real.exp (-(pa * T)) * nN2 R l2 pa s := by
  simp only [nN2, exp_neg_mul_add]
  ring

theorem nN3_eq (R cap l2 pa p2 t : ℝ) (h12 : pa - l2 ≠ 0) (h13 : p2 - l2 ≠ 0) (h23 : p2 - pa ≠ 0) :
    nN3 R cap l2 pa p2 t = cap / (p2 - pa) * (nN2 R l2 pa t - nN2 R l2 p2 t) := by
  unfold nN3 nN2
  -- three denominators to clear instead of six
  rw [← neg_sub pa l2, ← neg_sub p2 l2, ← neg_sub p2 pa]
  field_simp
  ring

theorem nN3_deriv (R cap l2 pa p2 t : ℝ) (h12 : pa - l2 ≠ 0) (h13 : p2 - l2 ≠ 0) (h23 : p2 - pa ≠ 0) :
    HasDerivAt (nN3 R cap l2 pa p2) (cap * nN2 R l2 pa t - p2 * nN3 R cap l2 pa p2 t) t := by
  rw [funext fun t => nN3_eq R cap l2 pa p2 t h12 h13 h23]
  exact hasDerivAt_stage cap h23 (nN2_deriv R l2 pa t h12) (nN2_deriv R l2 p2 t h13)

theorem nN3_zero (R cap l2 pa p2 : ℝ) (h12 : pa - l2 ≠ 0) (h13 : p2 - l2 ≠ 0) (h23 : p2 - pa ≠ 0) :
    nN3 R cap l2 pa p2 0 = 0 := by
  rw [nN3_eq R cap l2 pa p2 0 h12 h13 h23, nN2_zero, nN2_zero, sub_self, mul_zero]

/-! ## constant source (`l2 = 0`): differentiating moves the chain down one stage -/

theorem nN2_src_deriv (R k t : ℝ) (hk : k ≠ 0) : HasDerivAt (nN2 R 0 k) (nX R k t) t := by
  refine (nN2_deriv R 0 k t (by rwa [sub_zero])).congr_deriv ?_
  simp only [nX, nN2, zero_mul, neg_zero, Real.exp_zero, mul_one, sub_zero]
  field_simp
  ring

theorem nN3_src_deriv (R cap pa p2 t : ℝ) (h2 : pa ≠ 0) (h3 : p2 ≠ 0) (h23 : p2 - pa ≠ 0) :
    HasDerivAt (nN3 R cap 0 pa p2) (cap * nN2 R pa p2 t) t := by
  rw [funext fun t => nN3_eq R cap 0 pa p2 t (by rwa [sub_zero]) (by rwa [sub_zero]) h23]
  refine (((nN2_src_deriv R pa t h2).sub (nN2_src_deriv R p2 t h3)).const_mul (cap / (p2 - pa))).congr_deriv ?_
  unfold nX nN2
  ring

theorem nN3_src_monotone (R cap pa p2 : ℝ) (hRc : 0 ≤ R * cap) (h2 : pa ≠ 0) (h3 : p2 ≠ 0)
    (h23 : p2 - pa ≠ 0) : MonotoneOn (nN3 R cap 0 pa p2) (Set.Ici 0) := by
  have hd (t : ℝ) := nN3_src_deriv R cap pa p2 t h2 h3 h23
  refine monotoneOn_of_deriv_nonneg (convex_Ici 0) (fun t _ => (hd t).continuousAt.continuousWithinAt)
    (fun t _ => (hd t).differentiableAt.differentiableWithinAt) fun t ht => ?_
  have e : cap * nN2 R pa p2 t = nN2 (R * cap) pa p2 t := by
    unfold nN2
    ring
  rw [(hd t).deriv, e]
  exact nN2_nonneg (R * cap) pa p2 t hRc (interior_subset ht)

/-! ## depleting source: `N₃(t) = e^{-l2·t}·`(the constant-source chain with all rates lowered by `l2`) -/

theorem nN3_shift (R cap l2 pa p2 t : ℝ) :
    nN3 R cap l2 pa p2 t = Real.exp (-(l2 * t)) * nN3 R cap 0 (pa - l2) (p2 - l2) t := by
  have e (k : ℝ) : Real.exp (-(k * t)) = Real.exp (-(l2 * t)) * Real.exp (-((k - l2) * t)) := by
    rw [← Real.exp_add, ← neg_add, ← add_mul, add_sub_cancel]
  simp only [nN3, sub_zero, zero_sub, zero_mul, neg_zero, Real.exp_zero, sub_sub_sub_cancel_right, neg_sub]
  rw [e pa, e p2]
  ring

/-- the product of the two-capture chain is never negative: `e^{l2·t}·N₃(t)` is 0 at 0 and monotone -/
theorem nN3_nonneg (R cap l2 pa p2 T : ℝ) (hRc : 0 ≤ R * cap)
    (h12 : pa - l2 ≠ 0) (h13 : p2 - l2 ≠ 0) (h23 : p2 - pa ≠ 0) (hT : 0 ≤ T) :
    0 ≤ nN3 R cap l2 pa p2 T := by
  rw [nN3_shift]
  have h := nN3_src_monotone R cap _ _ hRc h12 h13 (by rwa [sub_sub_sub_cancel_right])
    (Set.mem_Ici.mpr le_rfl) (Set.mem_Ici.mpr hT) hT
  rw [nN3_zero _ _ _ _ _ (by rwa [sub_zero]) (by rwa [sub_zero]) (by rwa [sub_sub_sub_cancel_right])] at h
  exact mul_nonneg (Real.exp_pos _).le h

/-! ## single capture with burn-up: the first two stages, and the case `c = a` they leave out -/

/-- target atoms (in the activity units of `root`): `N_t' = -a N_t`, `N_t(0) = N0` -/
noncomputable def actNt (N0 a t : ℝ) : ℝ := N0 * Real.exp (-(a * t))
/-- product atoms: `N_p' = a N_t - c N_p`, `N_p(0) = 0` (`c = λ + b`); the second form is the
    solution when the product is lost exactly as fast as the target burns -/
noncomputable def actNp (N0 a c t : ℝ) : ℝ :=
  if c = a then a * N0 * t * Real.exp (-(a * t))
  else a * N0 / (c - a) * (Real.exp (-(a * t)) - Real.exp (-(c * t)))

theorem actNp_of_ne {a c : ℝ} (N0 : ℝ) (h : c ≠ a) : actNp N0 a c = nN2 (a * N0) a c :=
  funext fun _ => if_neg h

theorem actNp_self (N0 a : ℝ) : actNp N0 a a = fun t => a * N0 * t * Real.exp (-(a * t)) :=
  funext fun _ => if_pos rfl

theorem actNt_deriv (N0 a t : ℝ) : HasDerivAt (actNt N0 a) (-a * actNt N0 a t) t := nX_deriv N0 a t

theorem actNp_deriv (N0 a c t : ℝ) :
    HasDerivAt (actNp N0 a c) (a * actNt N0 a t - c * actNp N0 a c t) t := by
  by_cases hca : c = a
  · subst hca
    rw [actNp_self]
    refine (((hasDerivAt_id' t).const_mul (c * N0)).mul (hasDerivAt_exp_neg_mul c t)).congr_deriv ?_
    unfold actNt
    ring
  · rw [actNp_of_ne N0 hca]
    refine (nN2_deriv (a * N0) a c t (sub_ne_zero.mpr hca)).congr_deriv ?_
    unfold nX actNt
    ring

theorem actNt_zero (N0 a : ℝ) : actNt N0 a 0 = N0 := nX_zero N0 a
theorem actNp_zero (N0 a c : ℝ) : actNp N0 a c 0 = 0 := by
  unfold actNp
  split <;> simp

theorem actNp_nonneg (N0 a c T : ℝ) (hN : 0 ≤ a * N0) (hT : 0 ≤ T) : 0 ≤ actNp N0 a c T := by
  by_cases hca : c = a
  · subst hca
    rw [actNp_self]
    exact mul_nonneg (mul_nonneg hN hT) (Real.exp_pos _).le
  · rw [actNp_of_ne N0 hca]
    exact nN2_nonneg _ a c T hN hT

theorem actNp_add (N0 a c T s : ℝ) :
    actNp N0 a c (T + s) = actNp N0 a c T * Real.exp (-(a * s)) + Real.exp (-(c * T)) * actNp N0 a c s := by
  by_cases hca : c = a
  · subst hca
    simp only [actNp_self, exp_neg_mul_add]
    ring
  · rw [actNp_of_ne N0 hca]
    exact nN2_add _ a c T s

/-! ## `'b'`, production by decay of an activated parent: the chain with a constant source -/

/-- parent atoms: made at the constant rate `R`, decaying with `lp`: `P' = R - lp·P`, `P(0) = 0` -/
noncomputable def bP (R lp t : ℝ) : ℝ := R / lp * (1 - Real.exp (-(lp * t)))
/-- daughter atoms: `D' = lp·P - lam·D`, `D(0) = 0` -/
noncomputable def bD (R lp lam t : ℝ) : ℝ :=
  R / lam * (1 + (lam * Real.exp (-(lp * t)) - lp * Real.exp (-(lam * t))) / (lp - lam))

theorem bP_eq (R lp : ℝ) : bP R lp = nN2 R 0 lp := by
  funext t
  simp [bP, nN2]

/-- every parent that is lost decays into the daughter: `cap = pa` -/
theorem bD_eq (R lp lam : ℝ) (hlp : lp ≠ 0) (hlam : lam ≠ 0) (hne : lp - lam ≠ 0) :
    bD R lp lam = nN3 R lp 0 lp lam := by
  funext t
  simp only [bD, nN3, zero_mul, neg_zero, Real.exp_zero, sub_zero, zero_sub]
  rw [← neg_sub lp lam]
  field_simp
  ring

theorem bP_deriv (R lp t : ℝ) (hlp : lp ≠ 0) : HasDerivAt (bP R lp) (R - lp * bP R lp t) t := by
  rw [bP_eq]
  exact (nN2_deriv R 0 lp t (by rwa [sub_zero])).congr_deriv (by simp [nX])

theorem bD_deriv (R lp lam t : ℝ) (hlp : lp ≠ 0) (hlam : lam ≠ 0) (hne : lp - lam ≠ 0) :
    HasDerivAt (bD R lp lam) (lp * bP R lp t - lam * bD R lp lam t) t := by
  rw [bD_eq R lp lam hlp hlam hne, bP_eq]
  exact nN3_deriv R lp 0 lp lam t (by rwa [sub_zero]) (by rwa [sub_zero])
    (sub_ne_zero.mpr (sub_ne_zero.mp hne).symm)

theorem bP_zero (R lp : ℝ) : bP R lp 0 = 0 := by simp [bP]
theorem bD_zero (R lp lam : ℝ) (hlp : lp ≠ 0) (hlam : lam ≠ 0) (hne : lp - lam ≠ 0) : bD R lp lam 0 = 0 := by
  rw [bD_eq R lp lam hlp hlam hne]
  exact nN3_zero R lp 0 lp lam (by rwa [sub_zero]) (by rwa [sub_zero]) (sub_ne_zero.mpr (sub_ne_zero.mp hne).symm)

theorem mul_bD_nonneg (R lp lam T : ℝ) (hR : 0 ≤ R) (hlp : 0 < lp) (hlam : 0 < lam)
    (hne : lp - lam ≠ 0) (hT : 0 ≤ T) : 0 ≤ lam * bD R lp lam T := by
  rw [bD_eq R lp lam hlp.ne' hlam.ne' hne]
  exact mul_nonneg hlam.le (nN3_nonneg R lp 0 lp lam T (mul_nonneg hR hlp.le) ((sub_zero lp).symm ▸ hlp.ne')
    ((sub_zero lam).symm ▸ hlam.ne') (sub_ne_zero.mpr (sub_ne_zero.mp hne).symm) hT)

theorem linear_ode_unique (k : ℝ) (g f1 f2 : ℝ → ℝ)
    (h1 : ∀ t, HasDerivAt f1 (g t - k * f1 t) t) (h2 : ∀ t, HasDerivAt f2 (g t - k * f2 t) t)
    (h0 : f1 0 = f2 0) : ∀ t, f1 t = f2 t := by
  -- e^{kt}·(f1 - f2) has zero derivative
  have hw (t : ℝ) : HasDerivAt (fun t => Real.exp (k * t) * (f1 t - f2 t)) 0 t :=
    ((((hasDerivAt_id t).const_mul k).exp).mul ((h1 t).sub (h2 t))).congr_deriv <| by
      simp only [id, mul_one, Pi.sub_apply]
      ring
  intro t
  have := is_const_of_deriv_eq_zero (fun t => (hw t).differentiableAt) (fun t => (hw t).deriv) t 0
  rw [h0, sub_self, mul_zero] at this
  exact sub_eq_zero.mp ((mul_eq_zero.mp this).resolve_left (Real.exp_pos _).ne')

theorem nX_unique {R l2 : ℝ} {x : ℝ → ℝ} (hx : ∀ t, HasDerivAt x (-l2 * x t) t) (h0 : x 0 = R) :
    ∀ t, x t = nX R l2 t :=
  linear_ode_unique l2 (fun _ => 0) x (nX R l2) (fun t => (hx t).congr_deriv (by ring))
    (fun t => (nX_deriv R l2 t).congr_deriv (by ring)) (by rw [h0, nX_zero])

end PtModel.Activation
