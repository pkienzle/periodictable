import PtVerif.Proofs.CoreTable
import PtVerif.Proofs.CoreRoutes
/-! Table core (C08): every operation keeps the invariant; the module namespace and the completeness
of tables along any sequence of operations. -/
namespace PtCore

/-- apart from the two bulk operations every operation fills at most one cache slot -/
theorem step_fill {b : Base} {s : State} (hs : Inv b s) (op : Op) :
    (∃ t, op = .newTable t) ∨ (∃ t, op = .defineElements t) ∨ Fill b s (step b s op).1 := by
  cases op
  case newTable t => exact .inl ⟨t, rfl⟩
  case defineElements t => exact .inr (.inl ⟨t, rfl⟩)
  all_goals
    refine .inr (.inr ?_)
    simp only [step]
  case addIsotope o a =>
    split
    · next hel => exact (addIsotope_spec hs (elemOf_obj hel) a).1
    · exact .same
  case ion o q =>
    split
    · next hw => exact (ionGet_spec hs (ionOwner_atom hs hw) q).1
    · exact .same
  case reduce | changeTable =>
    split
    · split
      · exact path_fill hs ..
      · exact .same
    · exact .same
  -- the lookups: every branch returns the state it was given
  all_goals
    repeat' split
    all_goals exact .same

/-- every operation keeps the invariant and never changes an existing object -/
theorem inv_step {b : Base} (hb : (b.map (·.z)).Nodup) {s : State} (h : Inv b s) (op : Op) :
    Inv b (step b s op).1 ∧ Ext s (step b s op).1 := by
  rcases step_fill h op with ⟨t, rfl⟩ | ⟨t, rfl⟩ | hf
  · exact ⟨inv_newTable hb h t, ext_newTable hb h t⟩
  · simp only [step]
    split
    · -- only `ns` changes, which no field of the invariant reads
      exact ⟨{ h with }, fun _ _ hh => hh⟩
    · exact ⟨h, Ext.refl s⟩
  · exact ⟨hf.inv h, hf.ext⟩

theorem run_cons (b : Base) (s : State) (op : Op) (ops : List Op) :
    run b s (op :: ops) = run b (step b s op).1 ops := rfl

theorem run_append (b : Base) : ∀ (ops ops' : List Op) (s : State),
    run b s (ops ++ ops') = run b (run b s ops) ops'
  | [], _, _ => rfl
  | op :: ops, ops', s => run_append b ops ops' (step b s op).1

theorem run_induction {b : Base} {P : State → Prop} (hstep : ∀ s op, P s → P (step b s op).1) :
    ∀ (ops : List Op) {s : State}, P s → P (run b s ops)
  | [], _, h => h
  | op :: ops, _, h => run_induction hstep ops (hstep _ op h)

/-! ## the namespace filled by `define_elements` (module attributes `periodictable.Fe`, `.iron`, `.D`) -/

/-- a namespace entry x ↦ i is an element whose symbol or name is x, or an isotope object under one
    of the four alias names (that it is the aliased isotope of that name is not said) -/
def NsGood (b : Base) (s : State) (x : String) (i : Nat) : Prop :=
  (∃ t z r, s.obj i = some (.element t z) ∧ b.row? z = some r ∧ (x = r.symbol ∨ x = r.name)) ∨
  (∃ e a, s.obj i = some (.isotope e a) ∧ x ∈ ["D", "deuterium", "T", "tritium"])

def NsOK (b : Base) (s : State) : Prop := ∀ x i, s.ns.get? x = some i → NsGood b s x i

theorem NsGood.mono {b : Base} {s s' : State} (h : Ext s s') {x : String} {i : Nat} :
    NsGood b s x i → NsGood b s' x i
  | .inl ⟨t, z, r, ho, hr⟩ => .inl ⟨t, z, r, h _ _ ho, hr⟩
  | .inr ⟨e, a, ho, hx⟩ => .inr ⟨e, a, h _ _ ho, hx⟩

theorem nsOK_define {b : Base} {s : State} (hs : Inv b s) (hns : NsOK b s) (hdt : DTFree b)
    (t : String) : NsOK b (step b s (.defineElements t)).1 := by
  simp only [step]
  split
  · -- both loops only assign entries that are good; `NsGood` does not read the namespace
    let P (d : Dict String Nat) : Prop := ∀ x i, d.get? x = some i → NsGood b s x i
    refine List.foldlRecOn (motive := P) _ _
      (List.foldlRecOn (motive := P) _ _ (fun _ _ h => nomatch h) ?_) ?_
    · intro d hd zi hzi
      have ho := hs.elemSound _ _ _ (((sortedElems_spec hs t).2 zi.1 zi.2).mp hzi)
      split
      · next r hr =>
        exact Dict.forall_set (Dict.forall_set hd (.inl ⟨t, _, r, ho, hr, .inl rfl⟩))
          (.inl ⟨t, _, r, ho, hr, .inr rfl⟩)
      · exact hd
    · intro d hd k hk
      split
      · next i0 ha =>
        obtain ⟨hh, a, _, nm, ho, _, hal⟩ := alias_of_attr hs hdt (by simpa using hk) ha
        rw [hal]
        have hx : k ∈ ["D", "deuterium", "T", "tritium"] ∧ nm ∈ ["D", "deuterium", "T", "tritium"] := by
          rcases hs.aliasVals i0 _ hal with hp | hp <;> cases hp <;> simp
        exact Dict.forall_set (Dict.forall_set hd (.inr ⟨hh, a, ho, hx.1⟩)) (.inr ⟨hh, a, ho, hx.2⟩)
      · exact hd
  · exact hns

theorem nsOK_step {b : Base} (hb : (b.map (·.z)).Nodup) (hdt : DTFree b) {s : State} (hs : Inv b s)
    (hns : NsOK b s) (op : Op) : NsOK b (step b s op).1 := by
  have keep (h : (step b s op).1.ns = s.ns) : NsOK b (step b s op).1 :=
    fun x i hx => (hns x i (h ▸ hx)).mono (inv_step hb hs op).2
  rcases step_fill hs op with ⟨t, rfl⟩ | ⟨t, rfl⟩ | hf
  · exact keep (ns_newTable hb hs t)
  · exact nsOK_define hs hns hdt t
  · exact keep hf.frame.2.2

/-! ## valid keys succeed -/

theorem attrsOK_step {b : Base} (hz : (b.map (·.z)).Nodup) {s : State} (hs : Inv b s)
    (hok : AttrsOK b s) (op : Op) : AttrsOK b (step b s op).1 := by
  rcases step_fill hs op with ⟨t, rfl⟩ | ⟨t, rfl⟩ | hf
  · exact attrsOK_newTable hz hs t hok
  · simp only [step]
    split <;> exact hok
  · obtain ⟨h1, h2, _⟩ := hf.frame
    intro t ht r hr
    rw [h2]
    exact hok t (h1 ▸ ht) r hr

/-- every table in `PRIVATE_TABLES` has, for every row of `element_base`, one element object that
    both `table[Z]` and the attribute named by the symbol hold -/
def TablesOK (b : Base) (s : State) : Prop :=
  ∀ t ∈ s.tables, ∀ r ∈ b, ∃ i, s.elems.get? (t, r.z) = some i ∧ s.attrs.get? (t, r.symbol) = some i

theorem tablesOK_of_attrsOK {b : Base} (hsym : (b.map (·.symbol)).Nodup) (hdt : DTFree b) {s : State}
    (hs : Inv b s) (hok : AttrsOK b s) : TablesOK b s := fun t ht r hr =>
  have ⟨i, hi⟩ := Option.isSome_iff_exists.mp (hok t ht r hr)
  ⟨i, hs.elemUniq _ _ _ (elem_of_attr hs hsym hdt hr hi), hi⟩

theorem nsOK_tablesOK_run {b : Base} (hz : (b.map (·.z)).Nodup) (hsym : (b.map (·.symbol)).Nodup)
    (hdt : DTFree b) (ops : List Op) : NsOK b (run b init ops) ∧ TablesOK b (run b init ops) :=
  have ⟨h1, h2, h3⟩ := run_induction (P := fun s => Inv b s ∧ NsOK b s ∧ AttrsOK b s)
    (fun _ op ⟨h1, h2, h3⟩ => ⟨(inv_step hz h1 op).1, nsOK_step hz hdt h1 h2 op, attrsOK_step hz h1 h3 op⟩)
    ops ⟨inv_init b, fun _ _ hx => (nomatch hx), fun _ ht => nomatch ht⟩
  ⟨h2, tablesOK_of_attrsOK hsym hdt h1 h3⟩

end PtCore
