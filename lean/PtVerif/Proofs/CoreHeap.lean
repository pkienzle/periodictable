import PtVerif.Model.Core
import PtVerif.Proofs.TableCheck
/-! Table core (C08), what needs no invariant: dictionaries and their sorted items, the heap and its
per-object caches, delegation, rows of `element_base`, the 'A-Sym' string. -/
namespace PtCore

namespace Dict
variable {κ ν : Type} [DecidableEq κ]

theorem get?_nil (k : κ) : get? ([] : Dict κ ν) k = none := rfl

theorem get?_cons (e : κ × ν) (d : Dict κ ν) (k : κ) :
    get? (e :: d) k = if e.1 = k then some e.2 else get? d k := rfl

theorem get?_filter_ne (d : Dict κ ν) {k k' : κ} (h : k ≠ k') :
    get? (d.filter (fun e => e.1 ≠ k)) k' = get? d k' := by
  induction d with
  | nil => rfl
  | cons e d ih =>
    by_cases he : e.1 = k
    · rw [List.filter_cons_of_neg (by simpa using he), ih, get?_cons, if_neg (he ▸ h)]
    · rw [List.filter_cons_of_pos (by simpa using he), get?_cons, get?_cons, ih]

theorem get?_set (d : Dict κ ν) (k k' : κ) (v : ν) :
    get? (d.set k v) k' = if k = k' then some v else get? d k' := by
  rw [set, get?_cons]
  split
  · rfl
  · next h => exact get?_filter_ne d h

theorem get?_set_self (d : Dict κ ν) (k : κ) (v : ν) : get? (d.set k v) k = some v := by
  rw [get?_set, if_pos rfl]

theorem isSome_get?_set {d : Dict κ ν} {k : κ} (h : (get? d k).isSome) (k' : κ) (v : ν) :
    (get? (d.set k' v) k).isSome := by
  rw [get?_set]
  split
  · rfl
  · exact h

theorem set_of_get?_none {d : Dict κ ν} {k : κ} (h : get? d k = none) (v : ν) :
    d.set k v = (k, v) :: d := by
  unfold set
  congr 1
  induction d with
  | nil => rfl
  | cons e d ih =>
    rw [get?_cons] at h
    split at h
    · cases h
    · next hk => rw [List.filter_cons_of_pos (by simpa using hk), ih h]

theorem forall_set {P : κ → ν → Prop} {d : Dict κ ν} (hd : ∀ k v, get? d k = some v → P k v)
    {k₀ : κ} {v₀ : ν} (h₀ : P k₀ v₀) : ∀ k v, get? (d.set k₀ v₀) k = some v → P k v := by
  intro k v h
  rw [get?_set] at h
  split at h
  · next hk =>
      cases h
      exact hk ▸ h₀
  · exact hd k v h

def KeysNodup (d : Dict κ ν) : Prop := (d.map (·.1)).Nodup

theorem KeysNodup.set {d : Dict κ ν} (h : KeysNodup d) (k : κ) (v : ν) : KeysNodup (d.set k v) := by
  refine List.nodup_cons.mpr ⟨fun hm => ?_, h.sublist (List.filter_sublist.map _)⟩
  obtain ⟨e, he, hk⟩ := List.mem_map.mp hm
  simpa [hk] using (List.mem_filter.mp he).2

theorem mem_of_get? {d : Dict κ ν} {k : κ} {v : ν} (h : get? d k = some v) : (k, v) ∈ d := by
  induction d with
  | nil => cases h
  | cons e d ih =>
    rw [get?_cons] at h
    split at h
    · next hk =>
        cases h
        exact hk ▸ List.mem_cons_self ..
    · exact List.mem_cons_of_mem _ (ih h)

theorem get?_of_mem {d : Dict κ ν} (hnd : KeysNodup d) {k : κ} {v : ν} (h : (k, v) ∈ d) :
    get? d k = some v := by
  induction d with
  | nil => cases h
  | cons e d ih =>
    obtain ⟨hnot, hnd'⟩ := List.nodup_cons.mp hnd
    rw [get?_cons]
    rcases List.mem_cons.mp h with rfl | hmem
    · exact if_pos rfl
    · rw [if_neg fun hk => hnot (List.mem_map.mpr ⟨_, hmem, hk.symm⟩)]
      exact ih hnd' hmem

end Dict

/-! ## `sorted(dict.items())` -/

theorem insertByKey_perm {ν : Type} (x : Nat × ν) : ∀ l, (insertByKey x l).Perm (x :: l)
  | [] => .refl _
  | y :: ys => by
    unfold insertByKey
    split
    · exact .refl _
    · exact ((insertByKey_perm x ys).cons y).trans (.swap x y ys)

theorem sortByKey_perm {ν : Type} : ∀ l : List (Nat × ν), (sortByKey l).Perm l
  | [] => .refl _
  | x :: xs => (insertByKey_perm x _).trans ((sortByKey_perm xs).cons x)

theorem insertByKey_sorted {ν : Type} (x : Nat × ν) :
    ∀ l, l.Pairwise (fun a b => a.1 ≤ b.1) → (insertByKey x l).Pairwise (fun a b => a.1 ≤ b.1)
  | [], _ => List.pairwise_singleton ..
  | y :: ys, h => by
    have hc := List.pairwise_cons.mp h
    unfold insertByKey
    split
    · next hxy =>
      exact List.pairwise_cons.mpr ⟨fun a ha => (List.mem_cons.mp ha).elim (· ▸ hxy)
        fun ha' => Nat.le_trans hxy (hc.1 a ha'), h⟩
    · next hxy =>
      refine List.pairwise_cons.mpr ⟨fun a ha => ?_, insertByKey_sorted x ys hc.2⟩
      rcases List.mem_cons.mp ((insertByKey_perm x ys).mem_iff.mp ha) with rfl | ha'
      · exact Nat.le_of_not_le hxy
      · exact hc.1 a ha'

theorem sortByKey_sorted {ν : Type} :
    ∀ l : List (Nat × ν), (sortByKey l).Pairwise (fun a b => a.1 ≤ b.1)
  | [] => .nil
  | x :: xs => insertByKey_sorted x _ (sortByKey_sorted xs)

theorem sortByKey_spec {ν : Type} (raw : List (Nat × ν)) (hnd : raw.Pairwise (fun x y => x.1 ≠ y.1)) :
    ((sortByKey raw).map (·.1)).Pairwise (· < ·) ∧ ∀ x, x ∈ sortByKey raw ↔ x ∈ raw := by
  have hperm := sortByKey_perm raw
  refine ⟨List.pairwise_map.mpr ?_, fun x => hperm.mem_iff⟩
  exact ((sortByKey_sorted raw).and ((hperm.pairwise_iff Ne.symm).mpr hnd)).imp
    fun ⟨h1, h2⟩ => Nat.lt_of_le_of_ne h1 h2

/-! ## the heap: objects are added at the end, never changed or removed -/

theorem obj_lt_size {s : State} {i : Nat} {o : Obj} (h : s.obj i = some o) : i < s.objs.size :=
  (Array.getElem?_eq_some_iff.mp h).1

/-- Stated for any state whose `objs` is a `push`: `alloc` followed by record updates meets the
    hypothesis by `rfl`.  Unifying such a state with `(s.alloc o).1` instead compares the cache arrays
    field by field before it gives up, which is slow to check. -/
theorem obj_push {s s' : State} {o : Obj} (h : s'.objs = s.objs.push o) (i : Nat) :
    s'.obj i = if i = s.objs.size then some o else s.obj i := by
  unfold State.obj
  rw [h]
  exact Array.getElem?_push

theorem obj_of_push {s s' : State} {o o' : Obj} (h : s'.objs = s.objs.push o) {i : Nat}
    (hi : s'.obj i = some o') (hne : o' ≠ o) : s.obj i = some o' := by
  rw [obj_push h] at hi
  split at hi
  · exact absurd (Option.some.inj hi).symm hne
  · exact hi

def Ext (s s' : State) : Prop := ∀ i o, s.obj i = some o → s'.obj i = some o

theorem Ext.refl (s : State) : Ext s s := fun _ _ h => h
theorem Ext.trans {a b c : State} (h1 : Ext a b) (h2 : Ext b c) : Ext a c :=
  fun i o h => h2 i o (h1 i o h)

theorem ext_push {s s' : State} {o : Obj} (h : s'.objs = s.objs.push o) : Ext s s' := fun i _ hi => by
  rw [obj_push h, if_neg (Nat.ne_of_lt (obj_lt_size hi)), hi]

theorem obj_alloc (s : State) (o : Obj) (i : Nat) :
    (s.alloc o).1.obj i = if i = s.objs.size then some o else s.obj i :=
  obj_push rfl i

theorem ext_alloc (s : State) (o : Obj) : Ext s (s.alloc o).1 := ext_push rfl

/-! ## the per-object caches: arrays of dictionaries, read as empty beyond their size -/

theorem isosOf_of_le {s : State} {e : Nat} (h : s.isoC.size ≤ e) : s.isosOf e = [] := by
  rw [State.isosOf, Array.getElem?_eq_none h]
  rfl

theorem ionsOf_of_le {s : State} {w : Nat} (h : s.ionC.size ≤ w) : s.ionsOf w = [] := by
  rw [State.ionsOf, Array.getElem?_eq_none h]
  rfl

/-- the empty dictionary that `alloc` appends for the new object is invisible -/
theorem getD_push_nil {κ : Type} (c : Array (Dict κ Nat)) (w : Nat) :
    ((c.push [])[w]?).getD [] = (c[w]?).getD [] := by
  rw [Array.getElem?_push]
  split
  · next h =>
      rw [h, Array.getElem?_eq_none (Nat.le_refl _)]
      rfl
  · rfl

theorem isosOf_alloc (s : State) (o : Obj) (e : Nat) : (s.alloc o).1.isosOf e = s.isosOf e :=
  getD_push_nil s.isoC e

theorem ionsOf_alloc (s : State) (o : Obj) (w : Nat) : (s.alloc o).1.ionsOf w = s.ionsOf w :=
  getD_push_nil s.ionC w

section
variable {κ : Type} [DecidableEq κ] (c : Array (Dict κ Nat))

/-- `alloc`, then an assignment in the dictionary of an existing object `w` -/
theorem cache_set {w : Nat} (hw : w < c.size) (k : κ) {n : Nat} (w' : Nat) :
    (((c.push []).setIfInBounds w ((((c.push [])[w]?).getD []).set k n))[w']?).getD [] =
      if w = w' then ((c[w]?).getD []).set k n else (c[w']?).getD [] := by
  rw [Array.getElem?_setIfInBounds]
  split
  · rw [Array.size_push, if_pos (Nat.lt_succ_of_lt hw), getD_push_nil]
    rfl
  · exact getD_push_nil c w'

theorem get?_cache_set {w : Nat} (hw : w < c.size) (k : κ) {n : Nat} (w' : Nat) (k' : κ) :
    Dict.get? ((((c.push []).setIfInBounds w ((((c.push [])[w]?).getD []).set k n))[w']?).getD []) k' =
      if w = w' ∧ k = k' then some n else Dict.get? ((c[w']?).getD []) k' := by
  rw [cache_set c hw]
  by_cases hww : w = w'
  · subst hww
    simp only [if_pos, true_and, Dict.get?_set]
  · simp only [hww, false_and, if_false]
end

/-! ## delegation -/

/-- `elemOf` finds an element object, reading only objects that exist: in a larger heap it finds
    the same -/
theorem elemOf_spec {s : State} {w e : Nat} {t : String} {z : Nat}
    (hx : s.elemOf w = some (e, t, z)) :
    s.obj e = some (.element t z) ∧ ∀ {s'}, Ext s s' → s'.elemOf w = some (e, t, z) := by
  unfold State.elemOf at hx
  split at hx
  · next hw =>
      cases hx
      exact ⟨hw, fun h => by simp [State.elemOf, h _ _ hw]⟩
  · next hw =>
    split at hx
    · next he =>
        cases hx
        exact ⟨he, fun h => by simp [State.elemOf, h _ _ hw, h _ _ he]⟩
    · cases hx
  · next hw =>
    split at hx
    · next hb =>
        cases hx
        exact ⟨hb, fun h => by simp [State.elemOf, h _ _ hw, h _ _ hb]⟩
    · next hb =>
      split at hx
      · next he =>
        cases hx
        exact ⟨he, fun h => by simp [State.elemOf, h _ _ hw, h _ _ hb, h _ _ he]⟩
      · cases hx
    · cases hx
  · cases hx

theorem elemOf_obj {s : State} {w e : Nat} {t : String} {z : Nat}
    (hx : s.elemOf w = some (e, t, z)) : s.obj e = some (.element t z) :=
  (elemOf_spec hx).1

theorem elemOf_mono {s s' : State} {w e : Nat} {t : String} {z : Nat}
    (hx : s.elemOf w = some (e, t, z)) (h : Ext s s') : s'.elemOf w = some (e, t, z) :=
  (elemOf_spec hx).2 h

/-- `w` is an element or an isotope: what can own an `IonSet` (an `Ion` has none and delegates) -/
def IsAtomOwner (s : State) (w : Nat) : Prop :=
  (∃ t z, s.obj w = some (.element t z)) ∨ (∃ e a, s.obj w = some (.isotope e a))

theorem IsAtomOwner.mono {s s' : State} (h : Ext s s') {w : Nat} :
    IsAtomOwner s w → IsAtomOwner s' w
  | .inl ⟨t, z, hh⟩ => .inl ⟨t, z, h _ _ hh⟩
  | .inr ⟨e, a, hh⟩ => .inr ⟨e, a, h _ _ hh⟩

/-! ## rows of `element_base` -/

theorem row?_mem {b : Base} {z : Nat} {r : BaseRow} (h : b.row? z = some r) : r ∈ b :=
  List.mem_of_find?_eq_some h

theorem row?_z {b : Base} {z : Nat} {r : BaseRow} (h : b.row? z = some r) : r.z = z := by
  simpa using List.find?_some h

theorem inj_of_nodup_map {α β : Type} {f : α → β} {l : List α} (h : (l.map f).Nodup) {x y : α}
    (hx : x ∈ l) (hy : y ∈ l) (hf : f x = f y) : x = y :=
  -- members at two different places have different images, in either order
  have hne : l.Pairwise fun a b => f a ≠ f b := List.pairwise_map.mp h
  List.Pairwise.forall_of_forall_of_flip (R := fun a b => f a = f b → a = b) (fun _ _ _ => rfl)
    (hne.imp fun h e => absurd e h) (hne.imp fun h e => absurd e.symm h) hx hy hf

theorem row?_of_mem {b : Base} (hb : (b.map (·.z)).Nodup) {r : BaseRow} (hr : r ∈ b) :
    b.row? r.z = some r :=
  PtCheck.find?_key_of_mem BaseRow.z hb hr

/-! ## the 'A-Sym' string -/

theorem splitDash_go_no_dash {l : List Char} (h : '-' ∉ l) (cur : List Char) :
    splitDash.go l cur = [cur.reverse ++ l] := by
  induction l generalizing cur with
  | nil => rw [splitDash.go, List.append_nil]
  | cons c l ih =>
    rw [splitDash.go, if_neg fun e : c = '-' => h (e ▸ List.mem_cons_self ..),
      ih (fun hm => h (List.mem_cons_of_mem _ hm)), List.reverse_cons, List.append_assoc]
    rfl

theorem parseIsotope_no_dash {x : String} (h : '-' ∉ x.toList) : parseIsotope x = (x, 0) := by
  rw [parseIsotope, splitDash, splitDash_go_no_dash h]
  exact congrArg (·, 0) String.ofList_toList

end PtCore
