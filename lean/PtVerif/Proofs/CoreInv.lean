import PtVerif.Proofs.CoreHeap
/-! Table core (C08): the invariant, and that creating one isotope or one ion in an empty cache slot
keeps it (`Fill`). -/
namespace PtCore

/-! ## the invariant -/

structure Inv (b : Base) (s : State) : Prop where
  /-- `isoC` (`_isotopes` per object) and `ionC` (`ionset` per object) are parallel to `objs` -/
  szI : s.isoC.size = s.objs.size
  szN : s.ionC.size = s.objs.size
  /-- `table._element[Z]` is the element object recorded as (table, Z) … -/
  elemSound : ∀ t z i, s.elems.get? (t, z) = some i → s.obj i = some (.element t z)
  /-- … and there is no other element object with that table and number -/
  elemUniq : ∀ t z i, s.obj i = some (.element t z) → s.elems.get? (t, z) = some i
  /-- an element object belongs to an existing table and to a row of `element_base` -/
  elemBase : ∀ t z i, s.obj i = some (.element t z) → t ∈ s.tables ∧ (b.row? z).isSome
  /-- the same pair for `_isotopes` (`Sound`: the cache entry is the object with that key; `Uniq`: the
      object sits in the cache slot of its key), with the parent an element … -/
  isoSound : ∀ e a i, (s.isosOf e).get? a = some i → s.obj i = some (.isotope e a)
  isoUniq : ∀ e a i, s.obj i = some (.isotope e a) →
    (s.isosOf e).get? a = some i ∧ ∃ t z, s.obj e = some (.element t z)
  /-- … and for `ionset`, with the owner an element or isotope and the charge one of its element's -/
  ionSound : ∀ w q i, (s.ionsOf w).get? q = some i → s.obj i = some (.ion w q)
  ionUniq : ∀ w q i, s.obj i = some (.ion w q) →
    (s.ionsOf w).get? q = some i ∧ IsAtomOwner s w ∧
      ∃ e t z r, s.elemOf w = some (e, t, z) ∧ b.row? z = some r ∧ q ∈ r.ions
  /-- an attribute of the table object that holds an atom holds an element of that table whose
      symbol is the attribute name, or an aliased isotope (D, T) of that table -/
  attrSound : ∀ t x i, s.attrs.get? (t, x) = some i →
    (∃ z r, s.obj i = some (.element t z) ∧ b.row? z = some r ∧ r.symbol = x) ∨
    (∃ h a z nm, s.obj i = some (.isotope h a) ∧ s.obj h = some (.element t z) ∧
      s.alias.get? i = some (x, nm))
  elemsND : Dict.KeysNodup s.elems
  isosND : ∀ e, Dict.KeysNodup (s.isosOf e)
  /-- the only instance-level symbol / name pairs are those of D and T -/
  aliasVals : ∀ i p, s.alias.get? i = some p → p = ("D", "deuterium") ∨ p = ("T", "tritium")

theorem inv_init (b : Base) : Inv b init := by
  refine ⟨rfl, rfl, ?_, ?_, ?_, ?_, ?_, ?_, ?_, ?_, ?_, ?_, ?_⟩ <;> intros <;>
    simp_all [init, State.obj, State.isosOf, State.ionsOf, Dict.get?, Dict.KeysNodup]

/-- caches of an index that is not (yet) an object are empty -/
theorem Inv.isosOf_size {b : Base} {s : State} (h : Inv b s) : s.isosOf s.objs.size = [] :=
  isosOf_of_le (Nat.le_of_eq h.szI)

theorem Inv.ionsOf_size {b : Base} {s : State} (h : Inv b s) : s.ionsOf s.objs.size = [] :=
  ionsOf_of_le (Nat.le_of_eq h.szN)

/-- what the invariant says of an ion besides its cache slot only grows with the heap -/
theorem Inv.ionUniq_mono {b : Base} {s s' : State} (h : Inv b s) (hext : Ext s s') {w i : Nat}
    {q : Int} (hi : s.obj i = some (.ion w q)) :
    IsAtomOwner s' w ∧ ∃ e t z r, s'.elemOf w = some (e, t, z) ∧ b.row? z = some r ∧ q ∈ r.ions :=
  have ⟨_, h2, e, t, z, r, h3, h4⟩ := h.ionUniq w q i hi
  ⟨h2.mono hext, e, t, z, r, elemOf_mono h3 hext, h4⟩

/-- what the invariant says of an attribute still holds in a larger heap that keeps the aliases -/
theorem Inv.attrSound_mono {b : Base} {s s' : State} (h : Inv b s) (hext : Ext s s')
    (hal : ∀ {i p}, i < s.objs.size → s.alias.get? i = some p → s'.alias.get? i = some p)
    {t x : String} {i : Nat}
    (hi : s.attrs.get? (t, x) = some i) :
    (∃ z r, s'.obj i = some (.element t z) ∧ b.row? z = some r ∧ r.symbol = x) ∨
    (∃ h a z nm, s'.obj i = some (.isotope h a) ∧ s'.obj h = some (.element t z) ∧
      s'.alias.get? i = some (x, nm)) :=
  (h.attrSound t x i hi).imp (fun ⟨z, r, h1, h2⟩ => ⟨z, r, hext _ _ h1, h2⟩)
    fun ⟨hh, a, z, nm, h1, h2, h3⟩ => ⟨hh, a, z, nm, hext _ _ h1, hext _ _ h2, hal (obj_lt_size h1) h3⟩

/-! ## `Element.add_isotope` -/

/-- the state `addIsotope` produces when `e` has no isotope `a` yet (`addIsotope_none`) -/
def State.newIso (s : State) (e a : Nat) : State :=
  let s' := (s.alloc (.isotope e a)).1
  { s' with isoC := s'.isoC.setIfInBounds e ((s'.isosOf e).set a s.objs.size) }

theorem addIsotope_some {s : State} {e a i : Nat} (h : (s.isosOf e).get? a = some i) :
    s.addIsotope e a = (s, i) := by
  simp [State.addIsotope, h]

theorem addIsotope_none {s : State} {e a : Nat} (h : (s.isosOf e).get? a = none) :
    s.addIsotope e a = (s.newIso e a, s.objs.size) := by
  simp [State.addIsotope, h, State.newIso, State.alloc]

theorem obj_newIso (s : State) (e a j : Nat) :
    (s.newIso e a).obj j = if j = s.objs.size then some (.isotope e a) else s.obj j :=
  obj_push rfl j

theorem ionsOf_newIso (s : State) (e a w : Nat) : (s.newIso e a).ionsOf w = s.ionsOf w :=
  getD_push_nil s.ionC w

theorem isosOf_newIso (s : State) {e : Nat} (a e' : Nat) (he : e < s.isoC.size) :
    (s.newIso e a).isosOf e' =
      if e = e' then (s.isosOf e).set a s.objs.size else s.isosOf e' :=
  cache_set s.isoC he a e'

theorem inv_newIso {b : Base} {s : State} (h : Inv b s) {e a : Nat} {t : String} {z : Nat}
    (he : s.obj e = some (.element t z)) (hn : (s.isosOf e).get? a = none) :
    Inv b (s.newIso e a) :=
  have hp : (s.newIso e a).objs = s.objs.push (.isotope e a) := rfl
  have hext := ext_push hp
  have hlt : e < s.isoC.size := h.szI ▸ obj_lt_size he
  have hget e' a' : ((s.newIso e a).isosOf e').get? a' = _ := get?_cache_set s.isoC hlt a e' a'
  { szI := by simp [State.newIso, State.alloc, h.szI]
    szN := by simp [State.newIso, State.alloc, h.szN]
    elemSound := fun t z i hi => hext _ _ (h.elemSound t z i hi)
    elemUniq := fun t z i hi => h.elemUniq t z i (obj_of_push hp hi nofun)
    elemBase := fun t z i hi => h.elemBase t z i (obj_of_push hp hi nofun)
    isoSound := fun e' a' i hi => by
      rw [hget] at hi
      split at hi
      · next hk =>
          cases hi
          rw [← hk.1, ← hk.2, obj_newIso, if_pos rfl]
      · exact hext _ _ (h.isoSound _ _ _ hi)
    isoUniq := fun e' a' i hi => by
      rw [hget]
      rw [obj_newIso] at hi
      split at hi
      · next hin =>
          cases hi
          exact ⟨hin ▸ if_pos ⟨rfl, rfl⟩, t, z, hext _ _ he⟩
      · obtain ⟨h1, t', z', h2⟩ := h.isoUniq e' a' i hi
        refine ⟨(if_neg ?_).trans h1, t', z', hext _ _ h2⟩
        rintro ⟨rfl, rfl⟩
        exact nomatch hn.symm.trans h1
    ionSound := fun w q i hi => hext _ _ (h.ionSound w q i (ionsOf_newIso s e a w ▸ hi))
    ionUniq := fun w q i hi =>
      have hi' := obj_of_push hp hi nofun
      ⟨ionsOf_newIso s e a w ▸ (h.ionUniq w q i hi').1, h.ionUniq_mono hext hi'⟩
    attrSound := fun _ _ _ hi => h.attrSound_mono hext (fun _ h => h) hi
    elemsND := h.elemsND
    isosND := fun e' => by
      rw [isosOf_newIso s a e' hlt]
      split
      · exact Dict.KeysNodup.set (h.isosND e) ..
      · exact h.isosND e'
    aliasVals := h.aliasVals }

/-! ## `IonSet.__getitem__` -/

/-- the state `ionGet` produces when it creates the ion: the allocating branch of its body -/
def State.newIon (s : State) (w : Nat) (q : Int) : State :=
  let s' := (s.alloc (.ion w q)).1
  { s' with ionC := s'.ionC.setIfInBounds w ((s'.ionsOf w).set q s.objs.size) }

theorem obj_newIon (s : State) (w : Nat) (q : Int) (j : Nat) :
    (s.newIon w q).obj j = if j = s.objs.size then some (.ion w q) else s.obj j :=
  obj_push rfl j

theorem isosOf_newIon (s : State) (w : Nat) (q : Int) (e : Nat) :
    (s.newIon w q).isosOf e = s.isosOf e :=
  getD_push_nil s.isoC e

theorem inv_newIon {b : Base} {s : State} (h : Inv b s) {w : Nat} {q : Int}
    (hw : IsAtomOwner s w) (hn : (s.ionsOf w).get? q = none)
    {e : Nat} {t : String} {z : Nat} {r : BaseRow}
    (hel : s.elemOf w = some (e, t, z)) (hr : b.row? z = some r) (hq : q ∈ r.ions) :
    Inv b (s.newIon w q) :=
  have hp : (s.newIon w q).objs = s.objs.push (.ion w q) := rfl
  have hext := ext_push hp
  have hlt : w < s.ionC.size :=
    h.szN ▸ hw.elim (fun ⟨_, _, hh⟩ => obj_lt_size hh) fun ⟨_, _, hh⟩ => obj_lt_size hh
  have hget w' q' : ((s.newIon w q).ionsOf w').get? q' = _ := get?_cache_set s.ionC hlt q w' q'
  { szI := by simp [State.newIon, State.alloc, h.szI]
    szN := by simp [State.newIon, State.alloc, h.szN]
    elemSound := fun t z i hi => hext _ _ (h.elemSound t z i hi)
    elemUniq := fun t z i hi => h.elemUniq t z i (obj_of_push hp hi nofun)
    elemBase := fun t z i hi => h.elemBase t z i (obj_of_push hp hi nofun)
    isoSound := fun e a i hi => hext _ _ (h.isoSound e a i (isosOf_newIon s w q e ▸ hi))
    isoUniq := fun e a i hi =>
      have ⟨h1, t, z, h2⟩ := h.isoUniq e a i (obj_of_push hp hi nofun)
      ⟨isosOf_newIon s w q e ▸ h1, t, z, hext _ _ h2⟩
    ionSound := fun w' q' i hi => by
      rw [hget] at hi
      split at hi
      · next hk =>
          cases hi
          rw [← hk.1, ← hk.2, obj_newIon, if_pos rfl]
      · exact hext _ _ (h.ionSound _ _ _ hi)
    ionUniq := fun w' q' i hi => by
      rw [hget]
      rw [obj_newIon] at hi
      split at hi
      · next hin =>
        cases hi
        exact ⟨hin ▸ if_pos ⟨rfl, rfl⟩, hw.mono hext, e, t, z, r, elemOf_mono hel hext, hr, hq⟩
      · have h1 := (h.ionUniq w' q' i hi).1
        refine ⟨(if_neg ?_).trans h1, h.ionUniq_mono hext hi⟩
        rintro ⟨rfl, rfl⟩
        exact nomatch hn.symm.trans h1
    attrSound := fun _ _ _ hi => h.attrSound_mono hext (fun _ h => h) hi
    elemsND := h.elemsND
    isosND := fun e => isosOf_newIon s w q e ▸ h.isosND e
    aliasVals := h.aliasVals }

/-! ## filling a cache slot -/

/-- all that an operation other than `PeriodicTable(name)` and `define_elements` does to the state:
    nothing, or it puts one new isotope or one new ion with a valid charge into an empty cache slot -/
inductive Fill (b : Base) (s : State) : State → Prop
  | same : Fill b s s
  | iso {e a : Nat} {t : String} {z : Nat} (he : s.obj e = some (.element t z))
      (hn : (s.isosOf e).get? a = none) : Fill b s (s.newIso e a)
  | ion {w : Nat} {q : Int} {e : Nat} {t : String} {z : Nat} {r : BaseRow} (hw : IsAtomOwner s w)
      (hn : (s.ionsOf w).get? q = none) (hel : s.elemOf w = some (e, t, z))
      (hr : b.row? z = some r) (hq : q ∈ r.ions) : Fill b s (s.newIon w q)

theorem Fill.inv {b : Base} {s s' : State} (h : Inv b s) : Fill b s s' → Inv b s'
  | .same => h
  | .iso he hn => inv_newIso h he hn
  | .ion hw hn hel hr hq => inv_newIon h hw hn hel hr hq

theorem Fill.ext {b : Base} {s s' : State} : Fill b s s' → Ext s s'
  | .same => Ext.refl s
  | .iso .. => ext_push rfl
  | .ion .. => ext_push rfl

theorem Fill.frame {b : Base} {s s' : State} : Fill b s s' →
    s'.tables = s.tables ∧ s'.attrs = s.attrs ∧ s'.ns = s.ns
  | .same | .iso .. | .ion .. => ⟨rfl, rfl, rfl⟩

theorem addIsotope_spec {b : Base} {s : State} (h : Inv b s) {e : Nat} {t : String} {z : Nat}
    (he : s.obj e = some (.element t z)) (a : Nat) :
    Fill b s (s.addIsotope e a).1 ∧
      (s.addIsotope e a).1.obj (s.addIsotope e a).2 = some (.isotope e a) := by
  cases hg : (s.isosOf e).get? a with
  | some i =>
    rw [addIsotope_some hg]
    exact ⟨.same, h.isoSound _ _ _ hg⟩
  | none =>
    rw [addIsotope_none hg]
    exact ⟨.iso he hg, (obj_newIso ..).trans (if_pos rfl)⟩

theorem ionGet_spec {b : Base} {s : State} (h : Inv b s) {w : Nat} (hw : IsAtomOwner s w) (q : Int) :
    Fill b s (s.ionGet b w q).1 ∧
      ∀ i, (s.ionGet b w q).2 = .obj i → (s.ionGet b w q).1.obj i = some (.ion w q) := by
  unfold State.ionGet
  split
  · next hg => exact ⟨.same, fun _ hj => Res.obj.inj hj ▸ h.ionSound _ _ _ hg⟩
  · next hg =>
    split
    · next hel =>
      split
      · next hr =>
        split
        · next hq =>
          exact ⟨.ion hw hg hel hr hq, fun _ hj => Res.obj.inj hj ▸ (obj_newIon ..).trans (if_pos rfl)⟩
        · exact ⟨.same, nofun⟩
      · exact ⟨.same, nofun⟩
    · exact ⟨.same, nofun⟩

end PtCore
