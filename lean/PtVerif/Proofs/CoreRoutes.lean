import PtVerif.Proofs.CoreInv
/-! Table core (C08): keys of objects, uniqueness, and what each lookup route returns. -/
namespace PtCore

/-! ## keys of objects -/

theorem keyOf_element {s : State} {i : Nat} {t : String} {z : Nat}
    (h : s.obj i = some (.element t z)) : s.keyOf i = some ⟨t, z, none, none⟩ := by
  simp [State.keyOf, State.elemOf, State.isoNum, State.chargeOf, h]

theorem keyOf_isotope {s : State} {i e a : Nat} {t : String} {z : Nat}
    (h : s.obj i = some (.isotope e a)) (he : s.obj e = some (.element t z)) :
    s.keyOf i = some ⟨t, z, some a, none⟩ := by
  simp [State.keyOf, State.elemOf, State.isoNum, State.chargeOf, h, he]

theorem keyOf_ion {s : State} {i w : Nat} {q : Int} (h : s.obj i = some (.ion w q))
    (hw : IsAtomOwner s w) :
    s.keyOf i = (s.keyOf w).map fun k => ⟨k.table, k.z, k.a, some q⟩ := by
  rcases hw with ⟨t, z, hw⟩ | ⟨e, a, hw⟩
  · simp [State.keyOf, State.elemOf, State.isoNum, State.chargeOf, h, hw]
  · simp only [State.keyOf, State.elemOf, State.isoNum, State.chargeOf, h, hw]
    split <;> rfl

theorem obj_of_keyOf {s : State} {i : Nat} {k : Key} (h : s.keyOf i = some k) :
    ∃ o, s.obj i = some o := by
  cases ho : s.obj i with
  | none => simp [State.keyOf, State.elemOf, ho] at h
  | some o => exact ⟨o, rfl⟩

/-! ## the cache slot of a key -/

/-- the atom `_get_table(t)[Z]` or `_get_table(t)[Z][A]`, looked up without creating anything: the
    owner of the ion set that `path` goes on to consult -/
def State.owner? (s : State) (t : String) (z : Nat) : Option Nat → Option Nat
  | none => s.elems.get? (t, z)
  | some a => (s.elems.get? (t, z)).bind fun e => (s.isosOf e).get? a

theorem path_eq (s : State) (b : Base) (t : String) (z : Nat) (a : Option Nat) (q : Option Int) :
    s.path b t z a q =
      match s.owner? t z a, q with
      | none, _ => (s, .err .key)
      | some o, none => (s, .obj o)
      | some o, some q => s.ionGet b o q := by
  unfold State.path State.owner? State.isoGet
  cases s.elems.get? (t, z) with
  | none => cases a <;> rfl
  | some e =>
    cases a with
    | none => cases q <;> rfl
    | some a =>
      simp only [Option.bind_some]
      cases (s.isosOf e).get? a <;> cases q <;> rfl

theorem owner?_sound {b : Base} {s : State} (hs : Inv b s) {t : String} {z : Nat} {a : Option Nat}
    {o : Nat} (h : s.owner? t z a = some o) : IsAtomOwner s o ∧ s.keyOf o = some ⟨t, z, a, none⟩ := by
  cases a with
  | none =>
    have ho := hs.elemSound t z o h
    exact ⟨.inl ⟨t, z, ho⟩, keyOf_element ho⟩
  | some a =>
    obtain ⟨e, he, ha⟩ := Option.bind_eq_some_iff.mp h
    have ho := hs.isoSound e a o ha
    exact ⟨.inr ⟨e, a, ho⟩, keyOf_isotope ho (hs.elemSound t z e he)⟩

theorem owner?_complete {b : Base} {s : State} (hs : Inv b s) {w : Nat} (hw : IsAtomOwner s w) :
    ∃ t z a, s.keyOf w = some ⟨t, z, a, none⟩ ∧ t ∈ s.tables ∧ s.owner? t z a = some w := by
  rcases hw with ⟨t, z, hw⟩ | ⟨e, a, hw⟩
  · exact ⟨t, z, none, keyOf_element hw, (hs.elemBase t z w hw).1, hs.elemUniq t z w hw⟩
  · obtain ⟨h1, t, z, he⟩ := hs.isoUniq e a w hw
    refine ⟨t, z, some a, keyOf_isotope hw he, (hs.elemBase t z e he).1, ?_⟩
    simp only [State.owner?, hs.elemUniq t z e he, Option.bind_some, h1]

theorem keyOf_owner_ext {b : Base} {s s' : State} (hs : Inv b s) (hext : Ext s s') {w : Nat}
    (hw : IsAtomOwner s w) : s'.keyOf w = s.keyOf w := by
  rcases hw with ⟨t, z, hw⟩ | ⟨e, a, hw⟩
  · rw [keyOf_element hw, keyOf_element (hext _ _ hw)]
  · obtain ⟨_, t, z, he⟩ := hs.isoUniq e a w hw
    rw [keyOf_isotope hw he, keyOf_isotope (hext _ _ hw) (hext _ _ he)]

theorem ionGet_key {b : Base} {s : State} (hs : Inv b s) {w : Nat} (hw : IsAtomOwner s w) {k : Key}
    (hk : s.keyOf w = some k) {q : Int} {s' : State} {i : Nat} (h : s.ionGet b w q = (s', .obj i)) :
    s'.keyOf i = some ⟨k.table, k.z, k.a, some q⟩ := by
  obtain ⟨hfill, hres⟩ := ionGet_spec hs hw q
  rw [h] at hfill hres
  rw [keyOf_ion (hres i rfl) (hw.mono hfill.ext), keyOf_owner_ext hs hfill.ext hw, hk]
  rfl

/-- every atom is in the cache slot of its key: the route `_make_*` takes (`_get_table(t)[Z][A].ion[q]`)
    finds it and creates nothing -/
theorem path_of_obj {b : Base} {s : State} (hs : Inv b s) {o : Nat} {ob : Obj}
    (ho : s.obj o = some ob) :
    ∃ k, s.keyOf o = some k ∧ k.table ∈ s.tables ∧ s.path b k.table k.z k.a k.q = (s, .obj o) := by
  have owner (hw : IsAtomOwner s o) : ∃ k, s.keyOf o = some k ∧ k.table ∈ s.tables ∧
      s.path b k.table k.z k.a k.q = (s, .obj o) :=
    have ⟨_, _, _, hk, ht, hb⟩ := owner?_complete hs hw
    ⟨_, hk, ht, by simp only [path_eq, hb]⟩
  cases ob with
  | element t z => exact owner (.inl ⟨t, z, ho⟩)
  | isotope e a => exact owner (.inr ⟨e, a, ho⟩)
  | ion w q =>
    obtain ⟨hc, hw, _⟩ := hs.ionUniq w q o ho
    obtain ⟨t, z, a, hk, ht, hb⟩ := owner?_complete hs hw
    refine ⟨⟨t, z, a, some q⟩, (keyOf_ion ho hw).trans (congrArg (Option.map _) hk), ht, ?_⟩
    simp only [path_eq, hb, State.ionGet, hc]

/-! ## uniqueness -/

/-- **uniqueness**: two objects that report the same table, number, isotope number and charge are
    one object -/
theorem unique {b : Base} {s : State} (hs : Inv b s) {i j : Nat} {k : Key}
    (hi : s.keyOf i = some k) (hj : s.keyOf j = some k) : i = j := by
  obtain ⟨_, hoi⟩ := obj_of_keyOf hi
  obtain ⟨_, hoj⟩ := obj_of_keyOf hj
  obtain ⟨ki, h1, _, p1⟩ := path_of_obj hs hoi
  obtain ⟨kj, h2, _, p2⟩ := path_of_obj hs hoj
  cases h1.symm.trans hi
  cases h2.symm.trans hj
  exact Res.obj.inj (Prod.mk.inj (p1.symm.trans p2)).2

theorem unique_element {b : Base} {s : State} (hs : Inv b s) {i j : Nat} {t : String} {z : Nat}
    (hi : s.obj i = some (.element t z)) (hj : s.obj j = some (.element t z)) : i = j :=
  unique hs (keyOf_element hi) (keyOf_element hj)

theorem ionOwner_atom {b : Base} {s : State} (hs : Inv b s) {o w : Nat}
    (hw : s.ionOwner o = some w) : IsAtomOwner s w := by
  unfold State.ionOwner at hw
  split at hw
  · next ho =>
      cases hw
      exact .inl ⟨_, _, ho⟩
  · next ho =>
      cases hw
      exact .inr ⟨_, _, ho⟩
  · next ho =>
      cases hw
      exact (hs.ionUniq _ _ _ ho).2.1
  · cases hw

theorem path_fill {b : Base} {s : State} (hs : Inv b s) (t : String) (z : Nat) (a : Option Nat)
    (q : Option Int) : Fill b s (s.path b t z a q).1 := by
  rw [path_eq]
  split
  · exact .same
  · exact .same
  · next hb => exact (ionGet_spec hs (owner?_sound hs hb).1 _).1

/-! ## what each route returns -/

theorem path_key {b : Base} {s : State} (hs : Inv b s) {t : String} {z : Nat} {a : Option Nat}
    {q : Option Int} {s' : State} {i : Nat} (h : s.path b t z a q = (s', .obj i)) :
    s'.keyOf i = some ⟨t, z, a, q⟩ := by
  rw [path_eq] at h
  split at h
  · cases h
  · next hb =>
      cases h
      exact (owner?_sound hs hb).2
  · next hb => exact ionGet_key hs (owner?_sound hs hb).1 (owner?_sound hs hb).2 h

theorem getZ_obj_iff {b : Base} {s : State} {t : String} {z i : Nat} :
    (step b s (.getZ t z)).2 = .obj i ↔ s.elems.get? (t, z) = some i := by
  simp only [step, State.getZ]
  cases s.elems.get? (t, z) <;> simp

theorem symbol_obj_iff {b : Base} {s : State} {t x : String} {i : Nat} :
    (step b s (.symbol t x)).2 = .obj i ↔ s.attrs.get? (t, x) = some i := by
  simp only [step]
  cases s.attrs.get? (t, x) <;> simp

theorem attr_obj_iff {b : Base} {s : State} {t x : String} {i : Nat} :
    (step b s (.attr t x)).2 = .obj i ↔ s.attrs.get? (t, x) = some i := by
  simp only [step]
  cases s.attrs.get? (t, x) <;> simp

theorem modAttr_obj_iff {b : Base} {s : State} {x : String} {i : Nat} :
    (step b s (.modAttr x)).2 = .obj i ↔ s.ns.get? x = some i := by
  simp only [step]
  cases s.ns.get? x <;> simp

theorem symName_element {b : Base} {s : State} {e : Nat} {t : String} {z : Nat}
    (h : s.obj e = some (.element t z)) :
    s.symName b e = (b.row? z).map fun r => (r.symbol, r.name) := by
  simp [State.symName, State.elemOf, h]

theorem symName_of_attr {b : Base} {s : State} (hs : Inv b s) {t x : String} {i : Nat}
    (h : s.attrs.get? (t, x) = some i) :
    ∃ nm k, s.symName b i = some (x, nm) ∧ s.keyOf i = some k ∧ k.table = t ∧ k.q = none := by
  rcases hs.attrSound t x i h with ⟨z, r, ho, hr, hsym⟩ | ⟨hh, a, z, nm, ho, hho, hal⟩
  · exact ⟨r.name, _, by rw [symName_element ho, hr, ← hsym]; rfl, keyOf_element ho, rfl, rfl⟩
  · exact ⟨nm, _, by simp [State.symName, ho, hal], keyOf_isotope ho hho, rfl, rfl⟩

theorem sortedElems_spec {b : Base} {s : State} (hs : Inv b s) (t : String) :
    ((s.sortedElems t).map (·.1)).Pairwise (· < ·) ∧
    ∀ z i, (z, i) ∈ s.sortedElems t ↔ s.elems.get? (t, z) = some i := by
  -- two entries of `elems` for table t with the same Z would have the same key
  have hnd : ((s.elems.filter (fun e => e.1.1 = t)).map (fun e => (e.1.2, e.2))).Pairwise
      (fun x y => x.1 ≠ y.1) :=
    List.pairwise_map.mpr <| ((List.pairwise_map.mp hs.elemsND).filter _).imp_of_mem
      fun ha hb hne hz => hne <| Prod.ext
        ((of_decide_eq_true (List.mem_filter.mp ha).2).trans
          (of_decide_eq_true (List.mem_filter.mp hb).2).symm) hz
  refine ⟨(sortByKey_spec _ hnd).1, fun z i => ((sortByKey_spec _ hnd).2 _).trans ⟨fun hm => ?_, fun hg => ?_⟩⟩
  · obtain ⟨⟨⟨t1, z1⟩, v1⟩, he, heq⟩ := List.mem_map.mp hm
    obtain ⟨hmem, ht⟩ := List.mem_filter.mp he
    cases heq
    cases of_decide_eq_true ht
    exact Dict.get?_of_mem hs.elemsND hmem
  · exact List.mem_map.mpr ⟨((t, z), i), List.mem_filter.mpr ⟨Dict.mem_of_get? hg, decide_eq_true rfl⟩, rfl⟩

/-! ## the routes through the table's attributes: symbol and name -/

def DTFree (b : Base) : Prop := ∀ r ∈ b, r.symbol ≠ "D" ∧ r.symbol ≠ "T"

theorem alias_of_attr {b : Base} {s : State} (hs : Inv b s) (hdt : DTFree b) {t k : String} {i : Nat}
    (hk : k = "D" ∨ k = "T") (h : s.attrs.get? (t, k) = some i) :
    ∃ hh a z nm, s.obj i = some (.isotope hh a) ∧ s.obj hh = some (.element t z) ∧
      s.alias.get? i = some (k, nm) :=
  (hs.attrSound t k i h).resolve_left fun ⟨_, r, _, hr, hsym⟩ =>
    hk.elim (fun hD => (hdt r (row?_mem hr)).1 (hsym.trans hD))
      fun hT => (hdt r (row?_mem hr)).2 (hsym.trans hT)

theorem name_obj_cases {b : Base} {s : State} (hs : Inv b s) {t x : String} {i : Nat}
    (h : (step b s (.name t x)).2 = .obj i) :
    (∃ z r, s.elems.get? (t, z) = some i ∧ b.row? z = some r ∧ r.name = x) ∨
    ∃ k sym, (k = "D" ∨ k = "T") ∧ s.attrs.get? (t, k) = some i ∧ s.alias.get? i = some (sym, x) := by
  simp only [step] at h
  split at h
  · next zi hf =>
    cases h
    obtain ⟨r, hr, hn⟩ : ∃ r, b.row? zi.1 = some r ∧ r.name = x := by simpa using List.find?_some hf
    exact .inl ⟨zi.1, r, ((sortedElems_spec hs t).2 zi.1 zi.2).mp (List.mem_of_find?_eq_some hf), hr, hn⟩
  · have via (k : String) (hk : k = "D" ∨ k = "T") (j : Nat)
        (hj : (match s.attrs.get? (t, k) with
          | some i => match s.alias.get? i with
            | some (_, nm) => if nm = x then some i else none
            | none => none
          | none => none) = some j) :
        ∃ k sym, (k = "D" ∨ k = "T") ∧ s.attrs.get? (t, k) = some j ∧
          s.alias.get? j = some (sym, x) := by
      split at hj
      · next ha =>
        split at hj
        · next hal =>
          split at hj
          · next hnm =>
              cases hj
              exact ⟨k, _, hk, ha, hnm ▸ hal⟩
          · cases hj
        · cases hj
      · cases hj
    split at h
    · next hj =>
        cases h
        exact .inr (via "D" (.inl rfl) _ hj)
    · split at h
      · next hj =>
          cases h
          exact .inr (via "T" (.inr rfl) _ hj)
      · cases h

theorem elem_of_attr {b : Base} {s : State} (hs : Inv b s) (hsym : (b.map (·.symbol)).Nodup)
    (hdt : DTFree b) {t : String} {r : BaseRow} (hr : r ∈ b) {i : Nat}
    (h : s.attrs.get? (t, r.symbol) = some i) : s.obj i = some (.element t r.z) := by
  rcases hs.attrSound t r.symbol i h with ⟨z, r', ho, hrow, hsy⟩ | ⟨_, _, _, _, _, _, hal⟩
  · cases inj_of_nodup_map hsym (row?_mem hrow) hr hsy
    exact row?_z hrow ▸ ho
  · rcases hs.aliasVals i _ hal with hp | hp
    · exact absurd (congrArg Prod.fst hp) (hdt r hr).1
    · exact absurd (congrArg Prod.fst hp) (hdt r hr).2

theorem elem_of_name {b : Base} {s : State} (hs : Inv b s)
    (hnm : ((b.map (·.name)) ++ ["deuterium", "tritium"]).Nodup) {t : String} {r : BaseRow}
    (hr : r ∈ b) {i : Nat} (h : (step b s (.name t r.name)).2 = .obj i) :
    s.obj i = some (.element t r.z) := by
  obtain ⟨hnm1, _, hdisj⟩ := List.nodup_append.mp hnm
  rcases name_obj_cases hs h with ⟨z, r', hg, hrow, hn⟩ | ⟨_, _, _, _, hal⟩
  · cases inj_of_nodup_map hnm1 (row?_mem hrow) hr hn
    exact row?_z hrow ▸ hs.elemSound _ _ _ hg
  · have hne := hdisj _ (List.mem_map.mpr ⟨r, hr, rfl⟩)
    rcases hs.aliasVals i _ hal with hp | hp
    · exact absurd (congrArg Prod.snd hp) (hne _ (by simp))
    · exact absurd (congrArg Prod.snd hp) (hne _ (by simp))

end PtCore
