import PtVerif.Proofs.CoreInv
/-! Table core (C08): `PeriodicTable(name)` – the constructor loop, D and T, what the constructor
keeps, and the loop on a fresh name as plain insertions. -/
namespace PtCore

/-! ## `PeriodicTable.__init__` -/

theorem obj_mkElement (s : State) (t : String) (r : BaseRow) (j : Nat) :
    (s.mkElement t r).obj j = if j = s.objs.size then some (.element t r.z) else s.obj j :=
  obj_push rfl j

theorem isosOf_mkElement (s : State) (t : String) (r : BaseRow) (e : Nat) :
    (s.mkElement t r).isosOf e = s.isosOf e :=
  getD_push_nil s.isoC e

theorem ionsOf_mkElement (s : State) (t : String) (r : BaseRow) (w : Nat) :
    (s.mkElement t r).ionsOf w = s.ionsOf w :=
  getD_push_nil s.ionC w

theorem size_mkElement (s : State) (t : String) (r : BaseRow) :
    (s.mkElement t r).objs.size = s.objs.size + 1 :=
  Array.size_push ..

theorem elems_mkElement (s : State) (t : String) (r : BaseRow) (k : String × Nat) :
    (s.mkElement t r).elems.get? k = if (t, r.z) = k then some s.objs.size else s.elems.get? k :=
  Dict.get?_set ..

theorem attrs_mkElement (s : State) (t : String) (r : BaseRow) (k : String × String) :
    (s.mkElement t r).attrs.get? k = if (t, r.symbol) = k then some s.objs.size else s.attrs.get? k :=
  Dict.get?_set ..

theorem inv_mkElement {b : Base} {s : State} (h : Inv b s) {t : String} {r : BaseRow}
    (ht : t ∈ s.tables) (hr : b.row? r.z = some r) (hn : s.elems.get? (t, r.z) = none) :
    Inv b (s.mkElement t r) :=
  have hp : (s.mkElement t r).objs = s.objs.push (.element t r.z) := rfl
  have hext := ext_push hp
  have hnew : (s.mkElement t r).obj s.objs.size = some (.element t r.z) :=
    (obj_mkElement ..).trans (if_pos rfl)
  { szI := by simp [State.mkElement, State.alloc, h.szI]
    szN := by simp [State.mkElement, State.alloc, h.szN]
    elemSound := fun t' z' i hi => by
      rw [elems_mkElement] at hi
      split at hi
      · next hk =>
          cases hi
          cases hk
          exact hnew
      · exact hext _ _ (h.elemSound _ _ _ hi)
    elemUniq := fun t' z' i hi => by
      rw [elems_mkElement]
      rw [obj_mkElement] at hi
      split at hi
      · next hin =>
          cases hi
          exact hin ▸ if_pos rfl
      · have h1 := h.elemUniq _ _ _ hi
        refine (if_neg ?_).trans h1
        rintro ⟨⟩
        exact nomatch hn.symm.trans h1
    elemBase := fun t' z' i hi => by
      rw [obj_mkElement] at hi
      split at hi
      · cases hi
        exact ⟨ht, Option.isSome_iff_exists.mpr ⟨r, hr⟩⟩
      · exact h.elemBase _ _ _ hi
    isoSound := fun e a i hi => hext _ _ (h.isoSound e a i (isosOf_mkElement s t r e ▸ hi))
    isoUniq := fun e a i hi =>
      have ⟨h1, t', z', h2⟩ := h.isoUniq e a i (obj_of_push hp hi nofun)
      ⟨isosOf_mkElement s t r e ▸ h1, t', z', hext _ _ h2⟩
    ionSound := fun w q i hi => hext _ _ (h.ionSound w q i (ionsOf_mkElement s t r w ▸ hi))
    ionUniq := fun w q i hi =>
      have hi' := obj_of_push hp hi nofun
      ⟨ionsOf_mkElement s t r w ▸ (h.ionUniq w q i hi').1, h.ionUniq_mono hext hi'⟩
    attrSound := fun t' x i hi => by
      rw [attrs_mkElement] at hi
      split at hi
      · next hk =>
          cases hi
          cases hk
          exact .inl ⟨r.z, r, hnew, hr, rfl⟩
      · exact h.attrSound_mono hext (fun _ h => h) hi
    elemsND := Dict.KeysNodup.set h.elemsND ..
    isosND := fun e => isosOf_mkElement s t r e ▸ h.isosND e
    aliasVals := h.aliasVals }

/-- the constructor loop; the new elements have no isotopes yet -/
theorem inv_foldl_mkElement {b : Base} {t : String} :
    ∀ (rows : List BaseRow) (s : State), Inv b s → t ∈ s.tables →
      (∀ r ∈ rows, b.row? r.z = some r) → (rows.map (·.z)).Nodup →
      (∀ r ∈ rows, s.elems.get? (t, r.z) = none) →
      (∀ i z, s.obj i = some (.element t z) → s.isosOf i = []) →
      let s' := rows.foldl (fun st r => st.mkElement t r) s
      Inv b s' ∧ Ext s s' ∧ ∀ i z, s'.obj i = some (.element t z) → s'.isosOf i = []
  | [], s, h, _, _, _, _, h0 => ⟨h, Ext.refl s, h0⟩
  | r :: rows, s, h, ht, hrows, hnd, hnone, h0 => by
    obtain ⟨hnotin, hnd'⟩ := List.nodup_cons.mp hnd
    have hmem {r'} (hr' : r' ∈ rows) : r' ∈ r :: rows := List.mem_cons_of_mem _ hr'
    obtain ⟨i1, i2, i3⟩ := inv_foldl_mkElement rows (s.mkElement t r)
      (inv_mkElement h ht (hrows r (List.mem_cons_self ..)) (hnone r (List.mem_cons_self ..))) ht
      (fun r' hr' => hrows r' (hmem hr')) hnd'
      (fun r' hr' => by
        rw [elems_mkElement, if_neg]
        · exact hnone r' (hmem hr')
        · exact fun hk => hnotin (List.mem_map.mpr ⟨r', hr', (congrArg Prod.snd hk).symm⟩))
      (fun i z hi => by
        rw [isosOf_mkElement]
        rw [obj_mkElement] at hi
        split at hi
        · next hin => exact hin ▸ h.isosOf_size
        · exact h0 i z hi)
    exact ⟨i1, (ext_push rfl).trans i2, i3⟩

/-- the state `mkAlias` produces when the isotope is new -/
def State.aliased (s : State) (t sym name : String) (h a : Nat) : State :=
  let s' := s.newIso h a
  { s' with attrs := s'.attrs.set (t, sym) s.objs.size, alias := s'.alias.set s.objs.size (sym, name) }

theorem mkAlias_eq {s : State} {t sym name : String} {h a : Nat} {t' : String} {z' : Nat}
    (hH : s.attrs.get? (t, "H") = some h) (ho : s.obj h = some (.element t' z'))
    (hn : (s.isosOf h).get? a = none) :
    s.mkAlias t sym name a = some (s.aliased t sym name h a) := by
  simp only [State.mkAlias, hH, ho, addIsotope_none hn]
  rfl

theorem inv_aliased {b : Base} {s : State} (hs : Inv b s) {t sym name : String} {h a : Nat}
    {z : Nat} (ho : s.obj h = some (.element t z)) (hn : (s.isosOf h).get? a = none)
    (hv : (sym, name) = ("D", "deuterium") ∨ (sym, name) = ("T", "tritium")) :
    Inv b (s.aliased t sym name h a) :=
  have hext : Ext s (s.aliased t sym name h a) := ext_push rfl
  { inv_newIso hs ho hn with
    attrSound := fun t' x j hj => by
      rw [show (s.aliased t sym name h a).attrs = s.attrs.set (t, sym) s.objs.size from rfl,
        Dict.get?_set] at hj
      split at hj
      · next hk =>
        cases hj
        cases hk
        exact .inr ⟨h, a, z, name, (obj_newIso ..).trans (if_pos rfl), hext _ _ ho, Dict.get?_set_self ..⟩
      · exact hs.attrSound_mono hext
          (fun hlt hp => (Dict.get?_set ..).trans ((if_neg (Nat.ne_of_gt hlt)).trans hp)) hj
    aliasVals := Dict.forall_set hs.aliasVals hv }

/-- every table has an attribute for the symbol of every row of `element_base`.  No operation ever
    removes an attribute, so this is all of "valid keys succeed" that has to be followed along a run;
    what the attribute holds, and that `table[Z]` holds the same object, is said by the invariant. -/
def AttrsOK (b : Base) (s : State) : Prop :=
  ∀ t ∈ s.tables, ∀ r ∈ b, (s.attrs.get? (t, r.symbol)).isSome

theorem attrs_foldl_mkElement {t : String} (rows : List BaseRow) (s : State) :
    (∀ k, (s.attrs.get? k).isSome → ((rows.foldl (fun st r => st.mkElement t r) s).attrs.get? k).isSome) ∧
    ∀ r ∈ rows, ((rows.foldl (fun st r => st.mkElement t r) s).attrs.get? (t, r.symbol)).isSome := by
  induction rows generalizing s with
  | nil => exact ⟨fun _ h => h, fun _ h => nomatch h⟩
  | cons r rows ih =>
    obtain ⟨keep, new⟩ := ih (s.mkElement t r)
    refine ⟨fun k h => keep k (Dict.isSome_get?_set h ..), fun r' hr' => ?_⟩
    rcases List.mem_cons.mp hr' with rfl | hr'
    · exact keep _ (Option.isSome_iff_exists.mpr ⟨_, Dict.get?_set_self ..⟩)
    · exact new r' hr'

theorem newTable_keeps {b : Base} (hb : (b.map (·.z)).Nodup) {s : State} (hs : Inv b s) (t : String) :
    Inv b (s.newTable b t).1 ∧ Ext s (s.newTable b t).1 ∧ (s.newTable b t).1.ns = s.ns ∧
    (AttrsOK b s → AttrsOK b (s.newTable b t).1) := by
  unfold State.newTable
  split
  · exact ⟨hs, Ext.refl s, rfl, id⟩
  next ht =>
  have hnot i z (hi : s.obj i = some (.element t z)) : False := ht (hs.elemBase t z i hi).1
  obtain ⟨i1, i2, i3⟩ := inv_foldl_mkElement (b := b) (t := t) b { s with tables := t :: s.tables }
    { hs with elemBase := fun t' z' i hi => (hs.elemBase t' z' i hi).imp_left (List.mem_cons_of_mem _) }
    (List.mem_cons_self ..) (fun _ => row?_of_mem hb) hb
    (fun r _ => Option.eq_none_iff_forall_ne_some.mpr fun i hi => hnot i _ (hs.elemSound _ _ _ hi))
    (fun i z hi => (hnot i z hi).elim)
  obtain ⟨keep, new⟩ := attrs_foldl_mkElement (t := t) b { s with tables := t :: s.tables }
  have frame := List.foldlRecOn (motive := fun st : State => st.ns = s.ns ∧ st.tables = t :: s.tables) b
    (fun st r => st.mkElement t r) (b := { s with tables := t :: s.tables }) ⟨rfl, rfl⟩ fun _ h _ _ => h
  simp only
  generalize b.foldl (fun st r => st.mkElement t r) { s with tables := t :: s.tables } = s2
    at i1 i2 i3 keep new frame
  -- what is left to show of a state `s'` that D and T lead to from `s2`
  have done {s' : State} (h1 : Inv b s') (h2 : Ext s2 s') (h3 : s'.ns = s2.ns) (h4 : s'.tables = s2.tables)
      (h5 : ∀ k, (s2.attrs.get? k).isSome → (s'.attrs.get? k).isSome) :
      Inv b s' ∧ Ext s s' ∧ s'.ns = s.ns ∧ (AttrsOK b s → AttrsOK b s') :=
    ⟨h1, i2.trans h2, h3.trans frame.1, fun hok t0 ht0 r hr => by
      rcases List.mem_cons.mp (h4.trans frame.2 ▸ ht0) with rfl | hold
      · exact h5 _ (new r hr)
      · exact h5 _ (keep _ (hok t0 hold r hr))⟩
  have stop := done i1 (Ext.refl s2) rfl rfl fun _ h => h
  -- D and T are new isotopes of `table.H`; where that is missing or no element the constructor stops
  cases hH : s2.attrs.get? (t, "H") with
  | none => simpa only [State.mkAlias, hH] using stop
  | some h =>
    rcases i1.attrSound t "H" h hH with ⟨z, _, ho, _⟩ | ⟨_, _, _, _, ho, _⟩
    · have hiso := i3 h z ho
      have hn2 : (s2.isosOf h).get? 2 = none := congrArg (Dict.get? · 2) hiso
      have hH3 : (s2.aliased t "D" "deuterium" h 2).attrs.get? (t, "H") = some h :=
        (Dict.get?_set ..).trans
          ((if_neg fun hk => absurd (congrArg Prod.snd hk) (show "D" ≠ "H" by decide)).trans hH)
      have ho3 : (s2.aliased t "D" "deuterium" h 2).obj h = _ := ext_push rfl _ _ ho
      have hn3 : ((s2.aliased t "D" "deuterium" h 2).isosOf h).get? 3 = none := by
        refine (get?_cache_set s2.isoC (i1.szI ▸ obj_lt_size ho) 2 h 3).trans ?_
        rw [if_neg fun hk => absurd hk.2 (by decide)]
        exact congrArg (Dict.get? · 3) hiso
      rw [mkAlias_eq hH ho hn2]
      simp only
      rw [mkAlias_eq hH3 ho3 hn3]
      exact done (inv_aliased (inv_aliased i1 ho hn2 (.inl rfl)) ho3 hn3 (.inr rfl))
        ((ext_push rfl).trans (ext_push rfl)) rfl rfl
        fun _ hk => Dict.isSome_get?_set (Dict.isSome_get?_set hk ..) ..
    · simpa only [State.mkAlias, hH, ho] using stop

section
variable {b : Base} (hb : (b.map (·.z)).Nodup) {s : State} (hs : Inv b s) (t : String)
include hb hs

theorem inv_newTable : Inv b (s.newTable b t).1 := (newTable_keeps hb hs t).1

theorem ext_newTable : Ext s (s.newTable b t).1 := (newTable_keeps hb hs t).2.1

theorem ns_newTable : (s.newTable b t).1.ns = s.ns := (newTable_keeps hb hs t).2.2.1

theorem attrsOK_newTable (hok : AttrsOK b s) : AttrsOK b (s.newTable b t).1 :=
  (newTable_keeps hb hs t).2.2.2 hok

end

/-! ## the constructor loop on a fresh name

When the table has no entry for any row yet, each `d[k] = v` of the constructor loop inserts a new
key.  Kernel evaluation of a concrete session goes through this form of the loop: `Dict.set` filters
the whole dictionary, which is string-keyed and grows to one entry per row of `element_base`, at
every assignment. -/

def State.mkElementFresh (s : State) (t : String) (r : BaseRow) : State :=
  let (s', i) := s.alloc (.element t r.z)
  { s' with elems := ((t, r.z), i) :: s'.elems, attrs := ((t, r.symbol), i) :: s'.attrs }

theorem foldl_mkElement_fresh {t : String} : ∀ (rows : List BaseRow) (s : State),
    (rows.map (·.z)).Nodup → (rows.map (·.symbol)).Nodup →
    (∀ r ∈ rows, s.elems.get? (t, r.z) = none ∧ s.attrs.get? (t, r.symbol) = none) →
    rows.foldl (fun st r => st.mkElement t r) s = rows.foldl (fun st r => st.mkElementFresh t r) s
  | [], _, _, _, _ => rfl
  | r :: rows, s, hz, hsym, hnone => by
    obtain ⟨hz1, hz2⟩ := List.nodup_cons.mp hz
    obtain ⟨hs1, hs2⟩ := List.nodup_cons.mp hsym
    obtain ⟨he, ha⟩ := hnone r (List.mem_cons_self ..)
    have h1 : s.mkElement t r = s.mkElementFresh t r := by
      simp only [State.mkElement, State.mkElementFresh, State.alloc, Dict.set_of_get?_none he,
        Dict.set_of_get?_none ha]
    rw [List.foldl_cons, List.foldl_cons, ← h1]
    refine foldl_mkElement_fresh rows _ hz2 hs2 fun r' hr' => ?_
    -- a later row has another number and another symbol
    rw [elems_mkElement, attrs_mkElement, if_neg, if_neg]
    · exact hnone r' (List.mem_cons_of_mem _ hr')
    · exact fun hk => hs1 (List.mem_map.mpr ⟨r', hr', (congrArg Prod.snd hk).symm⟩)
    · exact fun hk => hz1 (List.mem_map.mpr ⟨r', hr', (congrArg Prod.snd hk).symm⟩)

end PtCore
