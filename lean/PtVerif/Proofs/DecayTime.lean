import PtVerif.Proofs.Activation

/-! `decay_time` / `find_root` at `ℝ` (C15): `f` and `df` never fail there and are `total - target` and
`dtotal`; what an `ok` outcome of `decayTimeOfData` is (`decayTimeOfData_inv`); for positive products
neither the initial guess nor the Newton loop raises. -/
namespace PtModel.Activation

/-- `Σ Ia·exp(-La·t)` over the `(Ia, La)` pairs -/
noncomputable def total (data : List (ℝ × ℝ)) (t : ℝ) : ℝ :=
  (data.map fun d => d.1 * Real.exp (-d.2 * t)).sum

/-- its derivative in `t`, the `df` of `decay_time` -/
noncomputable def dtotal (data : List (ℝ × ℝ)) (t : ℝ) : ℝ :=
  (data.map fun d => -d.2 * d.1 * Real.exp (-d.2 * t)).sum

/-- `Σ_k A_k·2^(-t/T_k)` over the products recorded at removal -/
noncomputable def specTotal (thalfOf : Nat → ℝ) (removal : List (Nat × ℝ)) (t : ℝ) : ℝ :=
  (removal.map fun ka => ka.2 * (2:ℝ) ^ (-t / thalfOf ka.1)).sum

/-- a product with positive activity and non-zero half-life is kept, with its decay constant `ln2/T½` -/
theorem decayData_cons_of_pos (c : Consts ℝ) (thalfOf : Nat → ℝ) {k : Nat} {ia : ℝ} (rest : List (Nat × ℝ))
    (hia : 0 < ia) (hT : thalfOf k ≠ 0) {out : List (ℝ × ℝ)} (hrest : decayData c thalfOf rest = .ok out) :
    decayData c thalfOf ((k, ia) :: rest) = .ok ((ia, c.ln2 / thalfOf k) :: out) := by
  rw [decayData, if_pos hia, if_neg (by simpa using hT), hrest]

/-- a product without activity is skipped -/
theorem decayData_cons_of_not_pos (c : Consts ℝ) (thalfOf : Nat → ℝ) (k : Nat) {ia : ℝ} (rest : List (Nat × ℝ))
    (hia : ¬0 < ia) : decayData c thalfOf ((k, ia) :: rest) = decayData c thalfOf rest := by
  rw [decayData, if_neg hia]

theorem foldl_ok_add {step : Except Err ℝ → ℝ × ℝ → Except Err ℝ} {g : ℝ × ℝ → ℝ}
    (hstep : ∀ s d, step (.ok s) d = .ok (s + g d)) (data : List (ℝ × ℝ)) (s : ℝ) :
    data.foldl step (.ok s) = .ok (s + (data.map g).sum) := by
  induction data generalizing s with
  | nil => simp
  | cons d ds ih => rw [List.foldl_cons, hstep, ih, List.map_cons, List.sum_cons, add_assoc]

theorem sumDecay_eq (data : List (ℝ × ℝ)) (t : ℝ) : sumDecay data t = .ok (total data t) := by
  rw [sumDecay, foldl_ok_add (g := fun d => d.1 * Real.exp (-d.2 * t)) fun s d => by simp [sumStep, pexp],
    zero_add]
  rfl

theorem fDecay_eq (data : List (ℝ × ℝ)) (target t : ℝ) :
    fDecay data target t = .ok (total data t - target) := by
  rw [fDecay, sumDecay_eq]

theorem dfDecay_eq (data : List (ℝ × ℝ)) (t : ℝ) : dfDecay data t = .ok (dtotal data t) := by
  rw [dfDecay, foldl_ok_add (g := fun d => -d.2 * d.1 * Real.exp (-d.2 * t)) fun s d => by simp [dsumStep, pexp],
    zero_add]
  rfl

/-- the pair `find_root` returns is `(x, f x)` -/
theorem findRootLoop_value {f df : ℝ → Except Err ℝ} {tol : ℝ} {n : Nat} {x fx t ft : ℝ}
    (h0 : f x = .ok fx) (h : findRootLoop f df tol n x fx = .ok (t, ft)) : f t = .ok ft := by
  fun_induction findRootLoop f df tol n x fx with
  | case1 | case3 =>
    -- no iteration left, or `|f x| < tol`: `(x, fx)` is returned
    cases h
    exact h0
  | case2 | case4 | case5 | case6 => cases h
  | case7 =>
    -- one Newton step to `x'`, with `f x' = .ok fx2` remembered
    rename_i hfx2 ih
    exact ih hfx2 h

theorem findRoot_value {f df : ℝ → Except Err ℝ} {x t ft : ℝ}
    (h : findRoot f df x = .ok (t, ft)) : f t = .ok ft := by
  unfold findRoot at h
  split at h
  · cases h
  · next hfx => exact findRootLoop_value hfx h

theorem total_antitone (data : List (ℝ × ℝ)) (hd : ∀ d ∈ data, 0 ≤ d.1 ∧ 0 ≤ d.2) (s t : ℝ) (hst : s ≤ t) :
    total data t ≤ total data s :=
  List.sum_le_sum fun d h => mul_le_mul_of_nonneg_left
    (Real.exp_le_exp.mpr (mul_le_mul_of_nonpos_left hst (neg_nonpos.mpr (hd d h).2))) (hd d h).1

/-- the acceptance test `100·|f(t)|/target ≤ 0.1` of `decay_time` -/
theorem accept_iff {target : ℝ} (htarget : 0 < target) (x : ℝ) :
    ¬ 0.1 < 1e2 * |x| / target ↔ |x| ≤ target / 1000 := by
  have e : (0.1 : ℝ) * target = 1e2 * (target / 1000) := by ring
  rw [not_lt, div_le_iff₀ htarget, e, mul_le_mul_iff_of_pos_left (by norm_num)]

theorem decayTimeOfData_inv {data : List (ℝ × ℝ)} {target t : ℝ} (h : decayTimeOfData data target = .ok t) :
    (total data 0 ≤ target ∧ t = 0) ∨
    (target < total data 0 ∧
      ∃ t', ¬ 0.1 < 1e2 * |total data t' - target| / target ∧ t = if t' < 0 then 0 else t') := by
  revert h
  fun_cases decayTimeOfData data target with
  | case2 f0 hf0 h0 =>
    -- the early exit `f(0) ≤ 0`
    rintro ⟨⟩
    rw [fDecay_eq] at hf0
    cases hf0
    exact Or.inl ⟨sub_nonpos.mp h0, rfl⟩
  | case8 f0 hf0 h0 x0 _ t' ft hroot _ hacc =>
    -- the Newton result `t'` passed the acceptance test
    rintro ⟨⟩
    have hft := findRoot_value hroot
    rw [fDecay_eq] at hf0 hft
    cases hf0
    cases hft
    exact Or.inr ⟨sub_pos.mp (not_le.mp h0), t', hacc, rfl⟩
  | case1 | case3 | case4 | case5 | case6 | case7 => nofun  -- every other branch raises

theorem dtotal_neg (data : List (ℝ × ℝ)) (hd : ∀ d ∈ data, 0 < d.1 ∧ 0 < d.2) (hne : data ≠ []) (t : ℝ) :
    dtotal data t < 0 := by
  have := List.sum_lt_sum_of_ne_nil hne (fun d => -d.2 * d.1 * Real.exp (-d.2 * t)) (fun _ => 0) fun d h =>
    mul_neg_of_neg_of_pos (mul_neg_of_neg_of_pos (neg_neg_of_pos (hd d h).2) (hd d h).1) (Real.exp_pos _)
  rwa [List.map_const', List.sum_replicate, smul_zero] at this

theorem findRootLoop_ok (F F' : ℝ → ℝ) (hF' : ∀ x, F' x ≠ 0) (tol : ℝ) (n : Nat) (x fx : ℝ) :
    ∃ r, findRootLoop (fun x => .ok (F x)) (fun x => .ok (F' x)) tol n x fx = .ok r := by
  induction n generalizing x fx with
  | zero => exact ⟨(x, fx), rfl⟩
  | succ n ih =>
    simp only [findRootLoop]
    split
    · exact ⟨_, rfl⟩
    · have : (F' x == 0) = false := by simpa using hF' x
      simp only [this, Bool.false_eq_true, if_false]
      exact ih _ _

theorem findRoot_ok (F F' : ℝ → ℝ) (hF' : ∀ x, F' x ≠ 0) (x : ℝ) :
    ∃ r, findRoot (fun x => .ok (F x)) (fun x => .ok (F' x)) x = .ok r :=
  findRootLoop_ok F F' hF' _ 20 x (F x)

theorem guessOf_ok {target : ℝ} {d : ℝ × ℝ} (hd : 0 < d.1 ∧ 0 < d.2) (htarget : 0 < target) :
    guessOf target d = .ok (-Real.log (target / d.1) / d.2) := by
  simp [guessOf, hd.1.ne', hd.2.ne', (div_pos htarget hd.1).not_ge]

theorem initialGuess_ok (data : List (ℝ × ℝ)) (target : ℝ) (hd : ∀ d ∈ data, 0 < d.1 ∧ 0 < d.2)
    (htarget : 0 < target) (m : Option ℝ) :
    ∃ m', data.foldl (guessStep target) (.ok m) = .ok m' ∧ (m.isSome ∨ data ≠ [] → m'.isSome) := by
  induction data generalizing m with
  | nil => exact ⟨m, rfl, fun h => h.resolve_right (· rfl)⟩
  | cons d ds ih =>
    obtain ⟨g, hg⟩ : ∃ g, guessStep target (.ok m) d = .ok (some g) := by
      rw [guessStep, guessOf_ok (hd d List.mem_cons_self) htarget]
      cases m <;> exact ⟨_, rfl⟩
    obtain ⟨m', h1, h2⟩ := ih (fun e he => hd e (List.mem_cons_of_mem _ he)) (some g)
    exact ⟨m', by rw [List.foldl_cons, hg, h1], fun _ => h2 (Or.inl rfl)⟩

end PtModel.Activation
