import PtVerif.Proofs.Dict
import Mathlib.Tactic.LinearCombination

/-! For C12: the natural mass ratio as a quotient of two masses, and the mass after isotope
substitution `M - n_s p (m_s - m_t)`. -/
namespace PtModel

theorem foldl_prod {β γ δ : Type} (f : γ → β → γ) (g : δ → β → δ) (l : List β) (s : γ × δ) :
    l.foldl (fun s e => (f s.1 e, g s.2 e)) s = (l.foldl f s.1, l.foldl g s.2) := by
  induction l generalizing s with
  | nil => rfl
  | cons x r ih => rw [List.foldl_cons, ih]; rfl

variable {α : Type} [Field α]

theorem naturalMassRatio_eq (am : Atom → α) (t : List (Atom × α)) :
    naturalMassRatio am t = massOf (fun a => am (naturalAtom a)) t / massOf am t := by
  rw [naturalMassRatio,
    foldl_prod (fun s (e : Atom × α) => s + e.2 * am (naturalAtom e.1)) (fun s e => s + e.2 * am e.1),
    foldl_count_mul (fun a => am (naturalAtom a)), foldl_count_mul, zero_add, zero_add,
    massOf_eq_wsum, massOf_eq_wsum]

theorem substitute_mass [DecidableEq α] (am : Atom → α) (t : List (Atom × α)) (hn : KeysNodup t) (d : Option α)
    (src tgt : Atom) (p : α) (hs : hasKey t src = true) (hne : src ≠ tgt) :
    massOf am (substitute am t d src tgt p).1 =
      massOf am t - lookupD t src * p * (am src - am tgt) := by
  unfold substitute
  simp only [hs, if_true, massOf_eq_wsum, lookupD_setKey, if_neg hne.symm]
  have h1 := wsum_setKey am hn tgt (lookupD t tgt + lookupD t src * p)
  split
  · next hp =>
    have h2 := wsum_eraseKey am (hn.setKey tgt (lookupD t tgt + lookupD t src * p)) src
    rw [lookupD_setKey, if_neg hne.symm] at h2
    linear_combination h1 + h2 + lookupD t src * am src * beq_iff_eq.mp hp
  · have h2 := wsum_setKey am (hn.setKey tgt (lookupD t tgt + lookupD t src * p)) src
      (lookupD (setKey t tgt (lookupD t tgt + lookupD t src * p)) src * (1 - p))
    rw [lookupD_setKey, if_neg hne.symm] at h2
    linear_combination h1 + h2

end PtModel
