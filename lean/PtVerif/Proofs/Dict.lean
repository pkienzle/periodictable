import PtVerif.Model.Density
import PtVerif.Proofs.Formula

/-! A dict with distinct keys is the function `lookupD` reads off it.  Every weighted sum depends on
the dict only through that function (`wsum_ext`), so an update is specified by what it does to
`lookupD` and by keeping the keys distinct; what it does to sums follows (`wsum_update`).

`hasKey`, `setKey`, `eraseKey` are those of `Model/Density.lean` (C12).  `Model/Fasta.lean` and
`Model/NeutronD2O.lean` have dict operations of their own; `Proofs/Fasta.lean` (`wsum_replaceAll`) and
`Proofs/NeutronD2O.lean` (`setKey_eq_bump`, `delKey_eq_eraseKey`) reduce them to these and to `bump`. -/
namespace PtModel
variable {α : Type}

theorem hasKey_iff (t : List (Atom × α)) (a : Atom) : hasKey t a = true ↔ a ∈ t.map Prod.fst := by
  simp only [hasKey, List.any_eq_true, decide_eq_true_eq, List.mem_map]

theorem KeysNodup.eraseKey {t : List (Atom × α)} (h : KeysNodup t) (a : Atom) :
    KeysNodup (PtModel.eraseKey t a) := by
  exact (List.Nodup.sublist (List.Sublist.map _ List.filter_sublist) h)

theorem eraseKey_cons (e : Atom × α) (r : List (Atom × α)) (a : Atom) :
    eraseKey (e :: r) a = if e.1 = a then eraseKey r a else e :: eraseKey r a := by
  by_cases h : e.1 = a <;> simp [eraseKey, h]

theorem setKey_cons_ne {e : Atom × α} {a : Atom} (h : e.1 ≠ a) (r : List (Atom × α)) (v : α) :
    setKey (e :: r) a v = e :: setKey r a v := by
  have hk : hasKey (e :: r) a = hasKey r a := by
    rw [hasKey, List.any_cons, decide_eq_false h, Bool.false_or, hasKey]
  rw [setKey, setKey, hk, List.map_cons, if_neg h, List.cons_append]
  split <;> rfl

theorem setKey_cons_self (e : Atom × α) (r : List (Atom × α)) (v : α) :
    setKey (e :: r) e.1 v = (e.1, v) :: r.map fun x => if x.1 = e.1 then (x.1, v) else x := by
  have hk : hasKey (e :: r) e.1 = true := by rw [hasKey, List.any_cons, decide_eq_true rfl, Bool.true_or]
  rw [setKey, if_pos hk, List.map_cons, if_pos rfl]

theorem keys_setKey (t : List (Atom × α)) (a : Atom) (v : α) :
    (setKey t a v).map Prod.fst = if a ∈ t.map Prod.fst then t.map Prod.fst else t.map Prod.fst ++ [a] := by
  unfold setKey
  simp only [← hasKey_iff]
  split
  · rw [List.map_map]; exact List.map_congr_left fun e _ => by simp only [Function.comp]; split <;> rfl
  · simp

theorem KeysNodup.setKey {t : List (Atom × α)} (h : KeysNodup t) (a : Atom) (v : α) :
    KeysNodup (PtModel.setKey t a v) := by
  unfold KeysNodup; rw [keys_setKey]; exact nodup_snoc_new h a

variable [CommSemiring α]

theorem lookupD_of_not_mem {t : List (Atom × α)} {a : Atom} (h : a ∉ t.map Prod.fst) :
    lookupD t a = 0 := by
  induction t with
  | nil => rfl
  | cons e r ih =>
    rw [List.map_cons, List.mem_cons, not_or] at h
    rw [lookupD, if_neg (Ne.symm h.1), ih h.2]

theorem lookupD_of_mem {t : List (Atom × α)} (h : KeysNodup t) {a : Atom} {n : α}
    (hm : (a, n) ∈ t) : lookupD t a = n := by
  induction t with
  | nil => simp at hm
  | cons e r ih =>
    have h' := List.nodup_cons.mp h
    rcases List.mem_cons.mp hm with rfl | hm
    · simp [lookupD]
    · have : e.1 ≠ a := fun hea => h'.1 (hea ▸ List.mem_map_of_mem (f := Prod.fst) hm)
      rw [lookupD, if_neg this, ih h'.2 hm]

theorem mem_of_lookupD_ne_zero {t : List (Atom × α)} {a : Atom} (h : lookupD t a ≠ 0) :
    (a, lookupD t a) ∈ t := by
  induction t with
  | nil => exact absurd rfl h
  | cons e r ih =>
    obtain ⟨b, y⟩ := e
    by_cases hb : b = a
    · simp [lookupD, hb]
    · simp only [lookupD, hb, if_false] at h ⊢
      exact List.mem_cons_of_mem _ (ih h)

theorem lookupD_eraseKey (t : List (Atom × α)) (a b : Atom) :
    lookupD (eraseKey t a) b = if a = b then 0 else lookupD t b := by
  induction t with
  | nil => simp [eraseKey, lookupD]
  | cons e r ih =>
    rw [eraseKey_cons]
    by_cases hea : e.1 = a
    · subst hea
      rw [if_pos rfl, ih, lookupD]
      split <;> rfl
    · rw [if_neg hea, lookupD, lookupD, ih]
      by_cases heb : e.1 = b
      · rw [if_pos heb, if_pos heb, if_neg (fun h => hea (heb.trans h.symm))]
      · rw [if_neg heb, if_neg heb]

theorem lookupD_bump (t : List (Atom × α)) (a : Atom) (x : α) (b : Atom) :
    lookupD (bump t a x) b = if a = b then lookupD t a + x else lookupD t b := by
  induction t with
  | nil => rfl
  | cons e r ih =>
    rw [bump]
    split
    · next he => subst he; rw [lookupD, lookupD, lookupD, if_pos rfl]; split <;> rfl
    · next he =>
      rw [lookupD, lookupD, lookupD, ih, if_neg he]
      split
      · next heb => rw [if_neg fun h => he (heb.trans h.symm)]
      · rfl

theorem lookupD_map_set {a b : Atom} (h : a ≠ b) (r : List (Atom × α)) (v : α) :
    lookupD (r.map fun x => if x.1 = a then (x.1, v) else x) b = lookupD r b := by
  induction r with
  | nil => rfl
  | cons x r ih =>
    rw [List.map_cons, lookupD, lookupD, ih]
    split
    · next hx => rw [if_neg (hx ▸ h), if_neg (hx ▸ h)]
    · rfl

theorem lookupD_setKey (t : List (Atom × α)) (a : Atom) (v : α) (b : Atom) :
    lookupD (setKey t a v) b = if a = b then v else lookupD t b := by
  induction t with
  | nil => rfl
  | cons e r ih =>
    by_cases he : e.1 = a
    · subst he
      rw [setKey_cons_self, lookupD, lookupD]
      split
      · rfl
      · next hb => exact lookupD_map_set hb r v
    · rw [setKey_cons_ne he, lookupD, lookupD, ih]
      split
      · next heb => rw [if_neg fun h => he (heb.trans h.symm)]
      · rfl

theorem wsum_eraseKey (w : Atom → α) {t : List (Atom × α)} (h : KeysNodup t) (a : Atom) :
    wsum w (eraseKey t a) + w a * lookupD t a = wsum w t := by
  induction t with
  | nil => simp [eraseKey, wsum, lookupD]
  | cons e r ih =>
    have h' := List.nodup_cons.mp h
    have ih := ih h'.2
    rw [eraseKey_cons, lookupD, wsum_cons]
    by_cases he : e.1 = a
    · rw [lookupD_of_not_mem (he ▸ h'.1), mul_zero, add_zero] at ih
      rw [if_pos he, if_pos he, ih, he, add_comm]
    · rw [if_neg he, if_neg he, wsum_cons, add_assoc, ih]

theorem wsum_eq_zero (w : Atom → α) {t : List (Atom × α)} (h : KeysNodup t)
    (h0 : ∀ b, lookupD t b = 0) : wsum w t = 0 := by
  refine List.sum_eq_zero fun x hx => ?_
  obtain ⟨e, he, rfl⟩ := List.mem_map.mp hx
  rw [← lookupD_of_mem h (a := e.1) (n := e.2) he, h0, mul_zero]

/-- neither the order of the keys nor entries with count 0 matter -/
theorem wsum_ext (w : Atom → α) {t t' : List (Atom × α)} (h : KeysNodup t) (h' : KeysNodup t')
    (hl : ∀ b, lookupD t b = lookupD t' b) : wsum w t = wsum w t' := by
  induction t generalizing t' with
  | nil => exact (wsum_eq_zero w h' fun b => (hl b).symm).symm
  | cons e r ih =>
    -- take the head key out of `t'` too: the two terms for it agree, and so do the rests by `ih`
    have hr := List.nodup_cons.mp h
    rw [← wsum_eraseKey w h' e.1, ← hl e.1, wsum_cons, add_comm]
    simp only [lookupD, if_true]
    congr 1
    refine ih hr.2 (h'.eraseKey _) fun b => ?_
    rw [lookupD_eraseKey, ← hl b]
    by_cases hb : e.1 = b
    · rw [if_pos hb, lookupD_of_not_mem (hb ▸ hr.1)]
    · simp [lookupD, hb]

theorem wsum_update (w : Atom → α) {t t' : List (Atom × α)} (h : KeysNodup t) (h' : KeysNodup t')
    (a : Atom) (hl : ∀ b, a ≠ b → lookupD t' b = lookupD t b) :
    wsum w t' + w a * lookupD t a = wsum w t + w a * lookupD t' a := by
  rw [← wsum_eraseKey w h a, ← wsum_eraseKey w h' a,
    wsum_ext w (h'.eraseKey a) (h.eraseKey a) fun b => ?_]
  · ring
  · simp only [lookupD_eraseKey]
    split
    · rfl
    · next hb => exact hl b hb

theorem wsum_setKey (w : Atom → α) {t : List (Atom × α)} (h : KeysNodup t) (a : Atom) (v : α) :
    wsum w (setKey t a v) + w a * lookupD t a = wsum w t + w a * v := by
  have := wsum_update w h (h.setKey a v) a fun b hb => by rw [lookupD_setKey, if_neg hb]
  rwa [lookupD_setKey, if_pos rfl] at this

end PtModel
