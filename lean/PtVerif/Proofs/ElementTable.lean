import PtVerif.Proofs.TableCheck
import PtVerif.Model.LoaderTables
import PtVerif.Model.Symbols
/-!
# `element_base` as the other tables see it

Two kernel-checked facts about the generated table – atomic numbers distinct, symbol codes distinct
(and different from `D`, `T`) – and what they give: `symOf` and `zOf` on a pair `(Z, code)` of
`genSyms`, and that no two codes name one element.  A table that names elements is then checked
against the table as a whole (its bit set, or one pass over `genSyms`) instead of by one search of
`element_base` per row.  A third evaluation, that the neutron (Z = 0) heads the table, serves
`ne_zero_of_mem_tail` alone.

The namespace is `PtLoad` because `symOf`, `zOf` and `allZ` are defined there (`Model/LoaderTables`).
-/
namespace PtLoad
open PtCheck PtModel

theorem allZ_nodup : allZ.Nodup := nodup_of_distinct (by decide +kernel)

theorem codes_DT_nodup : (PtGen.elementBase.map (·.2.2.2.1) ++ [codeD, codeT]).Nodup :=
  nodup_of_distinct (by decide +kernel)

theorem genSyms_fst : genSyms.map Prod.fst = allZ :=
  List.map_map

theorem genSyms_snd : genSyms.map Prod.snd = PtGen.elementBase.map (·.2.2.2.1) :=
  List.map_map

/-! ## the two lookups -/

theorem symOf_of_mem {z s : Nat} (h : (z, s) ∈ genSyms) : symOf z = some s := by
  obtain ⟨e, he, rfl, rfl⟩ := List.mem_map.mp h
  exact congrArg _ (find?_key_of_mem (l := PtGen.elementBase) Prod.fst allZ_nodup he)

theorem zOf_of_mem {z s : Nat} (h : (z, s) ∈ genSyms) : zOf s = some z := by
  obtain ⟨e, he, rfl, rfl⟩ := List.mem_map.mp h
  exact congrArg _ (find?_key_of_mem (·.2.2.2.1) (List.nodup_append.mp codes_DT_nodup).1 he)

theorem mem_of_zOf {z s : Nat} (h : zOf s = some z) : (z, s) ∈ genSyms := by
  obtain ⟨e, he, rfl⟩ := Option.map_eq_some_iff.mp h
  have hs := List.find?_some he
  exact List.mem_map.mpr ⟨e, List.mem_of_find?_eq_some he, by rw [← eq_of_beq hs]⟩

theorem zOf_inj {a b z : Nat} (ha : zOf a = some z) (hb : zOf b = some z) : a = b :=
  Option.some.inj ((symOf_of_mem (mem_of_zOf ha)).symm.trans (symOf_of_mem (mem_of_zOf hb)))

theorem nodup_filterMap_zOf {α : Type} (sym : α → Nat) {l : List α} (h : (l.map sym).Nodup) :
    (l.filterMap fun r => zOf (sym r)).Nodup :=
  (List.pairwise_map.mp h).filterMap (S := (· ≠ ·)) _ fun _ _ hab _ ha _ hb e =>
    hab (zOf_inj ha (e ▸ hb))

/-! ## the table as a bit set -/

theorem zOf_isSome_of_testBit {s : Nat} (h : (bits (genSyms.map Prod.snd)).testBit s = true) :
    (zOf s).isSome = true := by
  obtain ⟨p, hp, rfl⟩ := List.mem_map.mp (testBit_bits.mp h)
  exact Option.isSome_iff_exists.mpr ⟨p.1, zOf_of_mem hp⟩

theorem symOf_isSome_of_testBit {z : Nat} (h : (bits allZ).testBit z = true) :
    (symOf z).isSome = true := by
  obtain ⟨p, hp, rfl⟩ := List.mem_map.mp (genSyms_fst ▸ testBit_bits.mp h)
  exact Option.isSome_iff_exists.mpr ⟨p.2, symOf_of_mem hp⟩

/-! ## the table without the neutron -/

/-- the neutron heads the table: the other entries have `Z ≠ 0` -/
theorem ne_zero_of_mem_tail {z s : Nat} (h : (z, s) ∈ genSyms.tail) : z ≠ 0 := by
  have hd : genSyms.map Prod.fst = 0 :: genSyms.tail.map Prod.fst := by decide +kernel
  have hn := genSyms_fst ▸ allZ_nodup
  rw [hd, List.nodup_cons] at hn
  exact fun e => hn.1 (e ▸ List.mem_map_of_mem (f := Prod.fst) h)

end PtLoad
