import PtVerif.Model.Fasta
import PtVerif.Proofs.Hill
import PtVerif.Proofs.Dict
import Mathlib.Data.List.TakeWhile
import Mathlib.Tactic.LinearCombination

/-! For C18.  Every weighted sum over the Hill-ordered, joined structure of a sequence is the sum over
its residues (`seq_flatMass`); mass, Dmass and atom counts are such sums, with H[1] weighed or counted
as its substitute (`wsum_replaceAll`). -/
namespace PtModel

namespace Fasta

section Sums
variable {α : Type} [CommSemiring α]

theorem sumVol_eq (parts : List (Residue α)) : sumVol parts = (parts.map (·.vol)).sum := by
  unfold sumVol; rw [foldl_add_eq_sum, zero_add]

theorem sumCharge_eq (parts : List (Residue α)) : sumCharge parts = (parts.map (·.charge)).sum := by
  unfold sumCharge; rw [foldl_add_eq_sum, zero_add]

theorem joinStruct_flatMass (w : Atom → α) (parts : List (Residue α)) :
    (joinStruct parts).flatMass w = (parts.map (·.struct.flatMass w)).sum := by
  induction parts with
  | nil => rfl
  | cons p r ih => rw [joinStruct, Items.flatMass_append, ih, List.map_cons, List.sum_cons]

theorem joinStruct_cnt (parts : List (Residue α)) (b : Atom) :
    (joinStruct parts).cnt b = (parts.map (·.struct.cnt b)).sum := by
  simp only [Items.cnt_eq_flatMass, joinStruct_flatMass]

theorem seq_flatMass (w : Atom → α) (parts : List (Residue α)) :
    (hillS symOf (joinStruct parts).atoms).flatMass w = (parts.map (·.struct.flatMass w)).sum := by
  rw [flatMass_hillS, Items.wsum_atoms, joinStruct_flatMass]

theorem seq_counts (parts : List (Residue α)) (b : Atom) :
    lookupD (hillS symOf (joinStruct parts).atoms).atoms b = (parts.map (·.struct.cnt b)).sum := by
  rw [Items.lookupD_atoms, cnt_hillS_atoms, joinStruct_cnt]

end Sums

section Replace
variable {α : Type} [CommRing α]

def substAtom (src tgt : Atom) (a : Atom) : Atom := if a = src then tgt else a

/-- moving the count of `src` to `tgt` is weighing every `src` as a `tgt` -/
theorem wsum_replaceAll (w : Atom → α) (t : List (Atom × α)) (src tgt : Atom) (hne : src ≠ tgt)
    (h : KeysNodup t) :
    wsum w (replaceAll t src tgt) = wsum (fun a => w (substAtom src tgt a)) t := by
  -- split the `src` entry off each sum (`wsum_eraseKey`): off `src` the two weights agree (`h1`,
  -- `h2`), and `h3` does the same for the dict after the `bump`; the rest is linear
  have h1 := wsum_eraseKey (fun a => w (substAtom src tgt a)) h src
  rw [wsum_congr (w' := w) fun e he => by
    rw [substAtom, if_neg (by simpa using (List.mem_filter.mp he).2)]] at h1
  have h2 := wsum_eraseKey w h src
  rw [substAtom, if_pos rfl] at h1
  -- the model's own `eraseKey`, `hasKey` are those of `Model/Density.lean`
  show wsum w (if PtModel.hasKey t src then PtModel.eraseKey (bump t tgt (lookupD t src * 1)) src else t) = _
  split
  · have h3 := wsum_eraseKey w (h.bump tgt (lookupD t src * 1)) src
    rw [lookupD_bump, if_neg hne.symm, wsum_bump] at h3
    linear_combination h3 + h1 - h2
  · next hk =>
    rw [lookupD_of_not_mem fun hm => hk ((hasKey_iff t src).mpr hm)] at h1 h2
    linear_combination h1 - h2

theorem substH1_mass (am : Atom → α) (s : Items α) (tgt : Atom) (hne : atomH1 ≠ tgt) :
    massOf am (substH1 s tgt).atoms = s.flatMass (fun a => am (substAtom atomH1 tgt a)) := by
  unfold substH1
  rw [Items.massOf_atoms, flatMass_hillS, wsum_replaceAll am _ _ _ hne s.keysNodup_atoms, Items.wsum_atoms]

end Replace

section Lookup
variable {α : Type}

theorem lookupAll_eq (t : Table α) (l : List Char) :
    lookupAll t l = if (∀ c ∈ l, (t.find c).isSome) then some (l.filterMap t.find) else none := by
  induction l with
  | nil => rfl
  | cons c r ih =>
    simp only [lookupAll, ih, List.forall_mem_cons, List.filterMap_cons]
    cases t.find c with
    | none => simp
    | some x =>
      by_cases hr : ∀ c ∈ r, (t.find c).isSome
      · simp only [if_pos hr, Option.isSome_some, true_and]
      · simp only [if_neg hr, Option.isSome_some, true_and]

theorem lookupAll_eq_none_iff (t : Table α) (l : List Char) :
    lookupAll t l = none ↔ ∃ c ∈ l, t.find c = none := by
  simp [lookupAll_eq]

theorem lookupAll_perm (t : Table α) (l l' : List Char) (ps : List (Residue α))
    (h : lookupAll t l = some ps) (hp : l.Perm l') :
    ∃ ps', lookupAll t l' = some ps' ∧ ps.Perm ps' := by
  rw [lookupAll_eq] at h
  split at h
  · next hall =>
    refine ⟨l'.filterMap t.find, ?_, Option.some.inj h ▸ hp.filterMap _⟩
    rw [lookupAll_eq, if_pos fun c hc => hall c (hp.mem_iff.mpr hc)]
  · cases h

theorem Table.find_insert (t : Table α) (c d : Char) (r : Residue α) :
    (t.insert c r).find d = if c = d then some r else t.find d := by
  induction t with
  | nil => rfl
  | cons e rest ih =>
    rw [Table.insert]
    split
    · next hk =>
      rw [Table.find, Table.find, hk]
      split <;> rfl
    · next hk =>
      rw [Table.find, Table.find, ih]
      split
      · next hd => rw [if_neg fun h => hk (hd.trans h.symm)]
      · rfl

end Lookup

theorem filter_takeWhile_comm (p q : Char → Bool) (hpq : ∀ c, p c = false → q c = true)
    (s : List Char) : (s.takeWhile p).filter q = (s.filter q).takeWhile p := by
  induction s with
  | nil => rfl
  | cons c r ih =>
    cases hp : p c with
    | false => simp [hp, hpq c hp]
    | true => cases hq : q c <;> simp [hp, hq, ih]

def notStar (c : Char) : Bool := decide (c ≠ '*')
def notBlank (c : Char) : Bool := decide (c ≠ ' ')

theorem clean_eq (s : List Char) : clean s = (s.takeWhile notStar).filter notBlank := rfl

theorem notStar_of_not_mem {s : List Char} (h : '*' ∉ s) : ∀ c ∈ s, notStar c = true :=
  fun _ hc => decide_eq_true fun e => h (e ▸ hc)

theorem clean_append_star (s t : List Char) (h : '*' ∉ s) : clean (s ++ '*' :: t) = clean s := by
  rw [clean_eq, clean_eq, List.takeWhile_append_of_pos (notStar_of_not_mem h),
    List.takeWhile_cons_of_neg (by decide), List.append_nil,
    List.takeWhile_eq_self_iff.mpr (notStar_of_not_mem h)]

/-- blanks can be removed before or after cutting at `*` -/
theorem clean_eq_takeWhile_filter (s : List Char) :
    clean s = (s.filter notBlank).takeWhile notStar := by
  apply filter_takeWhile_comm
  intro c hc
  simp only [decide_eq_false_iff_not, not_not] at hc
  subst hc
  rfl

theorem clean_blank_invariant (s s' : List Char)
    (h : s.filter notBlank = s'.filter notBlank) : clean s = clean s' := by
  rw [clean_eq_takeWhile_filter, clean_eq_takeWhile_filter, h]

theorem splitColon_append (p r : List Char) (h : ':' ∉ p) :
    splitColon (p ++ ':' :: r) = some (p, r) := by
  induction p with
  | nil => simp [splitColon]
  | cons c rest ih =>
    have hc : c ≠ ':' := fun e => h (by simp [e])
    have hr : ':' ∉ rest := fun e => h (List.mem_cons_of_mem _ e)
    simp [splitColon, hc, ih hr]

theorem splitColon_some (s p r : List Char) (h : splitColon s = some (p, r)) :
    s = p ++ ':' :: r ∧ ':' ∉ p := by
  induction s generalizing p with
  | nil => cases h
  | cons c rest ih =>
    rw [splitColon] at h
    split at h
    · next hc =>
      obtain ⟨rfl, rfl⟩ := Prod.mk.inj (Option.some.inj h)
      exact ⟨by rw [hc]; rfl, List.not_mem_nil⟩
    · next hc =>
      split at h
      · next p' q' hs =>
        obtain ⟨rfl, rfl⟩ := Prod.mk.inj (Option.some.inj h)
        obtain ⟨e1, e2⟩ := ih p' hs
        exact ⟨by rw [e1]; rfl, fun hm => (List.mem_cons.mp hm).elim (fun e => hc e.symm) e2⟩
      · cases h

def headerLine (l : List Char) : Bool := isHeader (rstrip l)

theorem step_eq (st : RState) (l : List Char) :
    step st l = if headerLine l then ⟨some (rstrip l), [], st.flush⟩
      else { st with seq := st.seq ++ [rstrip l] } := rfl

theorem foldl_step_body (st : RState) (ls : List (List Char))
    (h : ∀ l ∈ ls, headerLine l = false) :
    ls.foldl step st = { st with seq := st.seq ++ ls.map rstrip } := by
  induction ls generalizing st with
  | nil =>
    rw [List.map_nil, List.append_nil]
    rfl
  | cons l r ih =>
    rw [List.forall_mem_cons] at h
    rw [List.foldl_cons, step_eq, h.1, ih _ h.2, List.map_cons]
    simp

/-- header line followed by its body lines -/
def render (blocks : List (List Char × List (List Char))) : List (List Char) :=
  blocks.flatMap fun b => b.1 :: b.2

def recordOf (b : List Char × List (List Char)) : List Char × List Char :=
  (rstrip b.1, (b.2.map rstrip).flatten)

theorem foldl_step_blocks (st : RState) (blocks : List (List Char × List (List Char)))
    (hh : ∀ b ∈ blocks, headerLine b.1 = true)
    (hb : ∀ b ∈ blocks, ∀ l ∈ b.2, headerLine l = false) :
    ((render blocks).foldl step st).flush = st.flush ++ blocks.map recordOf := by
  induction blocks generalizing st with
  | nil => simp [render]
  | cons b bs ih =>
    rw [List.forall_mem_cons] at hh hb
    have : render (b :: bs) = b.1 :: (b.2 ++ render bs) := rfl
    rw [this, List.foldl_cons, List.foldl_append, step_eq, hh.1, if_pos rfl, foldl_step_body _ b.2 hb.1,
      ih _ hh.2 hb.2]
    simp [RState.flush, recordOf]

/-- each header line adds one record to what a final flush yields, other lines none -/
theorem length_flush_foldl_step (ls : List (List Char)) (st : RState) :
    ((ls.foldl step st).flush).length = st.flush.length + (ls.filter headerLine).length := by
  induction ls generalizing st with
  | nil => rfl
  | cons l r ih =>
    rw [List.foldl_cons, ih, List.filter_cons, step_eq]
    cases headerLine l with
    | true =>
      simp [RState.flush]
      omega
    | false => cases hn : st.name <;> simp [RState.flush, hn]

section Fields
variable {α : Type} [Field α] [LinearOrder α]

theorem atomH1_ne_H : atomH1 ≠ atomH := by decide
theorem atomH1_ne_D : atomH1 ≠ atomD := by decide

theorem molecule_mass (am : Atom → α) (s : Items α) (V c : α) :
    (molecule am s V c).mass = s.flatMass (fun a => am (substAtom atomH1 atomH a)) := by
  rw [molecule, substH1_mass am s atomH atomH1_ne_H]

theorem molecule_dmass (am : Atom → α) (s : Items α) (V c : α) :
    (molecule am s V c).dmass = s.flatMass (fun a => am (substAtom atomH1 atomD a)) := by
  rw [molecule, substH1_mass am s atomD atomH1_ne_D]

theorem molecule_density (am : Atom → α) (s : Items α) (V c : α) :
    (molecule am s V c).density
      = if 0 < V then e24 * (s.flatMass am / PtGen.avogadro_number) / V else 0 := by
  simp only [molecule, Items.massOf_atoms]

/-- atom counts of `natural_formula` (H[1] → H): every atom counted under its substitute -/
theorem molecule_natural_counts (am : Atom → α) (s : Items α) (V c : α) (b : Atom) :
    lookupD (molecule am s V c).natural.atoms b
      = s.flatMass (fun a => if substAtom atomH1 atomH a = b then 1 else 0) := by
  simp only [molecule, substH1]
  rw [Items.lookupD_atoms, cnt_hillS, total_eq_wsum,
    wsum_replaceAll _ _ _ _ atomH1_ne_H s.keysNodup_atoms, Items.wsum_atoms]

theorem sequence_eq (am : Atom → α) (t : Table α) (s : List Char) :
    sequence am t s = (lookupAll t (clean s)).map fun parts =>
      molecule am (hillS symOf (joinStruct parts).atoms) (sumVol parts) (sumCharge parts) := by
  unfold sequence
  cases lookupAll t (clean s) <;> rfl

end Fields

/-- a decidable fact about the value of an `Option` that is `some`, in a form the kernel evaluates:
    the non-vacuity examples of C18 state facts about the regenerated tables with it -/
theorem exists_some_of_any {β : Type} {o : Option β} {P : β → Prop} [DecidablePred P]
    (h : o.any (fun t => decide (P t)) = true) : ∃ t, o = some t ∧ P t := by
  obtain ⟨t, ht, hp⟩ := (Option.any_eq_true _ _).mp h
  exact ⟨t, ht, of_decide_eq_true hp⟩

end Fasta
end PtModel
