import PtVerif.Model.Formula
import Mathlib.Tactic.Ring
import Mathlib.Algebra.BigOperators.Ring.List

/-! The formula algebra (C02, C19, C12, C11, C18, and the neutron / x-ray sums) rests on one fact:
for every weight `w`, the sum `wsum w` of `w atom * count` over the dict that `_count_atoms` builds
is the structural sum `Items.flatMass w` (`Items.wsum_countAcc`).  Mass and charge are `wsum`s; the
count of one atom is the `wsum` of the indicator weight of that atom (`total_eq_wsum`,
`Items.cnt_eq_flatMass`), so what holds of `flatMass` for every weight holds of counts. -/
namespace PtModel

section Semiring
variable {α : Type} [CommSemiring α]

def wsum (w : Atom → α) (t : List (Atom × α)) : α := (t.map fun e => w e.1 * e.2).sum

theorem wsum_nil (w : Atom → α) : wsum w ([] : List (Atom × α)) = 0 := by simp [wsum]

theorem wsum_cons (w : Atom → α) (e : Atom × α) (t : List (Atom × α)) :
    wsum w (e :: t) = w e.1 * e.2 + wsum w t := by simp [wsum]

theorem wsum_perm (w : Atom → α) {s t : List (Atom × α)} (h : s.Perm t) : wsum w s = wsum w t :=
  (h.map _).sum_eq

theorem wsum_congr {w w' : Atom → α} {t : List (Atom × α)} (h : ∀ e ∈ t, w e.1 = w' e.1) :
    wsum w t = wsum w' t := by
  unfold wsum; congr 1; exact List.map_congr_left fun e he => by rw [h e he]

theorem wsum_map_mul (w : Atom → α) (c : α) (t : List (Atom × α)) :
    wsum w (t.map fun e => (e.1, c * e.2)) = c * wsum w t := by
  induction t with
  | nil => simp [wsum]
  | cons e r ih => simp only [List.map_cons, wsum_cons, ih]; ring

theorem foldl_add_eq_sum {β : Type} (f : β → α) (l : List β) (a : α) :
    l.foldl (fun s p => s + f p) a = a + (l.map f).sum := by
  induction l generalizing a with
  | nil => simp
  | cons x r ih => simp only [List.foldl_cons, ih, List.map_cons, List.sum_cons, add_assoc]

theorem foldl_mul_count (w : Atom → α) (t : List (Atom × α)) (s0 : α) :
    t.foldl (fun s e => s + w e.1 * e.2) s0 = s0 + wsum w t := foldl_add_eq_sum _ t s0

theorem foldl_count_mul (w : Atom → α) (t : List (Atom × α)) (s0 : α) :
    t.foldl (fun s e => s + e.2 * w e.1) s0 = s0 + wsum w t := by
  simp only [mul_comm _ (w _)]; exact foldl_mul_count w t s0

theorem massOf_eq_wsum (w : Atom → α) (t : List (Atom × α)) : massOf w t = wsum w t := by
  unfold massOf; rw [foldl_mul_count, zero_add]

theorem wsum_bump (w : Atom → α) (t : List (Atom × α)) (a : Atom) (x : α) :
    wsum w (bump t a x) = wsum w t + w a * x := by
  induction t with
  | nil => simp [bump, wsum]
  | cons e r ih =>
    unfold bump
    split
    · next h => subst h; simp only [wsum_cons]; ring
    · simp only [wsum_cons, ih, add_assoc]

theorem wsum_mergeScaled (w : Atom → α) (t p : List (Atom × α)) (c : α) :
    wsum w (mergeScaled t p c) = wsum w t + wsum w p * c := by
  unfold mergeScaled
  induction p generalizing t with
  | nil => simp [wsum]
  | cons e r ih => rw [List.foldl_cons, ih, wsum_bump, wsum_cons]; ring

mutual
theorem Frag.flatMass_eq_wsum (w : Atom → α) (f : Frag α) : f.flatMass w = wsum w f.count := by
  cases f with
  | atom a => simp [Frag.count, Frag.flatMass, wsum]
  | group is => rw [Frag.count, Frag.flatMass, Items.wsum_countAcc, wsum_nil, zero_add]
theorem Items.wsum_countAcc (w : Atom → α) (s : Items α) (t : List (Atom × α)) :
    wsum w (s.countAcc t) = wsum w t + s.flatMass w := by
  cases s with
  | nil => simp [Items.countAcc, Items.flatMass]
  | cons c f r =>
    rw [Items.countAcc, Items.flatMass, Items.wsum_countAcc, wsum_mergeScaled, Frag.flatMass_eq_wsum,
      add_assoc]
end

theorem Items.wsum_atoms (w : Atom → α) (s : Items α) : wsum w s.atoms = s.flatMass w := by
  rw [Items.atoms, Items.wsum_countAcc, wsum_nil, zero_add]

theorem Items.massOf_atoms (w : Atom → α) (s : Items α) : massOf w s.atoms = s.flatMass w := by
  rw [massOf_eq_wsum, Items.wsum_atoms]

theorem Items.flatMass_append (w : Atom → α) (s t : Items α) :
    (s.append t).flatMass w = s.flatMass w + t.flatMass w := by
  match s with
  | .nil => simp [Items.append, Items.flatMass]
  | .cons c f r => simp only [Items.append, Items.flatMass, Items.flatMass_append w r t, add_assoc]

theorem flatMass_rmulS [DecidableEq α] (w : Atom → α) (n : α) (s : Items α) :
    (rmulS n s).flatMass w = s.flatMass w * n := by
  unfold rmulS
  split
  · next h => simp [beq_iff_eq.mp h]
  · match s with
    | .nil => simp [Items.flatMass]
    | .cons q f .nil => simp only [Items.flatMass]; ring
    | .cons q f (.cons q' f' r) => simp [Items.flatMass, Frag.flatMass]

/-- sum of the values stored under key `b` (well defined also with duplicate keys) -/
def total (p : List (Atom × α)) (b : Atom) : α :=
  p.foldr (fun e s => (if e.1 = b then e.2 else 0) + s) 0

@[simp] theorem total_nil (b : Atom) : total ([] : List (Atom × α)) b = 0 := rfl
@[simp] theorem total_cons (e : Atom × α) (p : List (Atom × α)) (b : Atom) :
    total (e :: p) b = (if e.1 = b then e.2 else 0) + total p b := rfl

theorem total_eq_wsum (t : List (Atom × α)) (b : Atom) :
    total t b = wsum (fun a => if a = b then 1 else 0) t := by
  induction t with
  | nil => simp [wsum]
  | cons e r ih => simp only [total_cons, wsum_cons, ih]; split <;> simp

mutual
theorem Frag.cnt_eq_flatMass (f : Frag α) (b : Atom) :
    f.cnt b = f.flatMass fun a => if a = b then 1 else 0 := by
  cases f with
  | atom a => rfl
  | group is => rw [Frag.cnt, Frag.flatMass, Items.cnt_eq_flatMass]
theorem Items.cnt_eq_flatMass (s : Items α) (b : Atom) :
    s.cnt b = s.flatMass fun a => if a = b then 1 else 0 := by
  cases s with
  | nil => rfl
  | cons c f r => rw [Items.cnt, Items.flatMass, Frag.cnt_eq_flatMass, Items.cnt_eq_flatMass]
end

theorem Frag.total_count (f : Frag α) (b : Atom) : total f.count b = f.cnt b := by
  rw [total_eq_wsum, ← Frag.flatMass_eq_wsum, Frag.cnt_eq_flatMass]

theorem Items.total_countAcc (s : Items α) (t : List (Atom × α)) (b : Atom) :
    total (s.countAcc t) b = total t b + s.cnt b := by
  rw [total_eq_wsum, Items.wsum_countAcc, ← total_eq_wsum, Items.cnt_eq_flatMass]

theorem Items.cnt_append (s t : Items α) (a : Atom) :
    (s.append t).cnt a = s.cnt a + t.cnt a := by
  simp only [Items.cnt_eq_flatMass, Items.flatMass_append]

theorem cnt_addS (s t : Items α) (a : Atom) : (addS s t).cnt a = s.cnt a + t.cnt a :=
  Items.cnt_append s t a

theorem cnt_rmulS [DecidableEq α] (n : α) (s : Items α) (a : Atom) :
    (rmulS n s).cnt a = s.cnt a * n := by
  simp only [Items.cnt_eq_flatMass, flatMass_rmulS]

/-- keys of an association list are pairwise distinct (it is a dict) -/
def KeysNodup (t : List (Atom × α)) : Prop := (t.map Prod.fst).Nodup

theorem keys_bump (t : List (Atom × α)) (a : Atom) (x : α) :
    (bump t a x).map Prod.fst = if a ∈ t.map Prod.fst then t.map Prod.fst else t.map Prod.fst ++ [a] := by
  induction t with
  | nil => rfl
  | cons e r ih =>
    rw [bump, List.map_cons]
    split
    · next h => rw [if_pos (h ▸ List.mem_cons_self), List.map_cons]
    · next h =>
      rw [List.map_cons, ih]
      by_cases hm : a ∈ r.map Prod.fst
      · rw [if_pos hm, if_pos (List.mem_cons_of_mem _ hm)]
      · rw [if_neg hm, if_neg (by simp [hm, Ne.symm h]), List.cons_append]

theorem mem_keys_bump (t : List (Atom × α)) (a : Atom) (x : α) (b : Atom) :
    b ∈ (bump t a x).map Prod.fst ↔ b ∈ t.map Prod.fst ∨ b = a := by
  rw [keys_bump]
  split
  · next h => exact ⟨Or.inl, fun h' => h'.elim id (· ▸ h)⟩
  · rw [List.mem_append, List.mem_singleton]

theorem bump_not_mem (t : List (Atom × α)) (a : Atom) (x : α) (h : a ∉ t.map Prod.fst) :
    bump t a x = t ++ [(a, x)] := by
  induction t with
  | nil => simp [bump]
  | cons e r ih =>
    obtain ⟨k, y⟩ := e
    simp only [List.map_cons, List.mem_cons, not_or] at h
    have hk : ¬ k = a := fun e => h.1 e.symm
    simp only [bump, hk, if_false, List.cons_append, ih h.2]

theorem nodup_snoc_new {l : List Atom} (h : l.Nodup) (a : Atom) :
    (if a ∈ l then l else l ++ [a]).Nodup := by
  split
  · exact h
  · next hn =>
    exact List.nodup_append.mpr ⟨h, List.pairwise_singleton _ _, fun x hx y hy e =>
      hn (List.mem_singleton.mp hy ▸ e ▸ hx)⟩

theorem KeysNodup.bump {t : List (Atom × α)} (h : KeysNodup t) (a : Atom) (x : α) :
    KeysNodup (PtModel.bump t a x) := by
  unfold KeysNodup; rw [keys_bump]; exact nodup_snoc_new h a

theorem KeysNodup.mergeScaled {t : List (Atom × α)} (h : KeysNodup t) (p : List (Atom × α)) (c : α) :
    KeysNodup (PtModel.mergeScaled t p c) := by
  induction p generalizing t with
  | nil => simpa
  | cons e _ ih => exact ih (h.bump _ _)

theorem Items.keysNodup_countAcc : (s : Items α) → {t : List (Atom × α)} → KeysNodup t →
    KeysNodup (s.countAcc t)
  | .nil, _, h => by simpa [Items.countAcc]
  | .cons c f r, _, h => by
    exact Items.keysNodup_countAcc r (h.mergeScaled _ _)

theorem Items.keysNodup_atoms (s : Items α) : KeysNodup s.atoms :=
  Items.keysNodup_countAcc s List.nodup_nil

theorem total_of_not_mem {t : List (Atom × α)} {b : Atom} (h : b ∉ t.map Prod.fst) : total t b = 0 := by
  induction t with
  | nil => rfl
  | cons e r ih =>
    rw [List.map_cons, List.mem_cons, not_or] at h
    rw [total_cons, if_neg (Ne.symm h.1), ih h.2, add_zero]

theorem lookupD_eq_total {t : List (Atom × α)} (h : KeysNodup t) (b : Atom) :
    lookupD t b = total t b := by
  induction t with
  | nil => rfl
  | cons e r ih =>
    have h' := List.nodup_cons.mp h
    rw [lookupD, total_cons]
    split
    · next hk => rw [total_of_not_mem (hk ▸ h'.1), add_zero]
    · rw [ih h'.2, zero_add]

theorem Items.lookupD_atoms (s : Items α) (b : Atom) : lookupD s.atoms b = s.cnt b := by
  rw [lookupD_eq_total s.keysNodup_atoms, Items.atoms, Items.total_countAcc, total_nil, zero_add]

end Semiring

section Ring
variable {α : Type} [CommRing α]

theorem chargeOf_eq_wsum (t : List (Atom × α)) : chargeOf t = wsum (fun a => (a.q : α)) t := by
  rw [chargeOf, foldl_count_mul fun a => (a.q : α), zero_add]

theorem Frag.wsum_count (w : Atom → α) (f : Frag α) : wsum w f.count = f.flatMass w :=
  (Frag.flatMass_eq_wsum w f).symm

end Ring

section Field
variable {α : Type} [Field α]

theorem massFraction_sum (w : Atom → α) (t : List (Atom × α)) (h : massOf w t ≠ 0) :
    ((massFraction w t).map Prod.snd).sum = 1 := by
  rw [massFraction, List.map_map]
  show (t.map fun e => e.2 * w e.1 / massOf w t).sum = 1
  simp only [div_eq_mul_inv, List.sum_map_mul_right, mul_comm _ (w _)]
  rw [← wsum, ← massOf_eq_wsum, mul_inv_cancel₀ h]

end Field

end PtModel
