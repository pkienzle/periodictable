import PtVerif.Proofs.Hill
import PtVerif.Model.FormulaOps

/-! Refinement of the formula-object heap (`Model/FormulaOps.lean`) to the abstract
"every formula is its atom-count function" specification, for every program. -/
namespace PtModel

theorem Heap.alloc_objs_get {α : Type} (h : Heap α) (r : Nat) (s : Items α) (i : Nat)
    (hi : i < h.objs.length) : (h.alloc r s).objs[i]? = h.objs[i]? := by
  simp [Heap.alloc, List.getElem?_append_left hi]

/-- abstract heap: each object is just its atom-count function -/
structure AHeap (α : Type) where
  objs : List (Atom → α)
  regs : List (Nat × Nat)

namespace AHeap
variable {α : Type} [Add α] [Mul α] [OfNat α 0] [OfNat α 1]

def reg (h : AHeap α) (r : Nat) : Option Nat := (h.regs.find? (·.1 = r)).map (·.2)
def obj (h : AHeap α) (r : Nat) : Option (Atom → α) := do
  let i ← h.reg r
  h.objs[i]?
def alloc (h : AHeap α) (r : Nat) (f : Atom → α) : AHeap α :=
  ⟨h.objs ++ [f], (r, h.objs.length) :: h.regs⟩

/-- the specification: counts add under `+`/`+=`, scale under `n*`, are copied by
    `formula(f)`/`.hill`, and are the given counts for `formula(seq)` / `formula(dict)` -/
def step (h : AHeap α) : Op α → Option (AHeap α)
  | .new r s => some (h.alloc r s.cnt)
  | .dict r t => some (h.alloc r (lookupD t))
  | .copy r r2 => do let f ← h.obj r2; some (h.alloc r f)
  | .same r r2 => do let i ← h.reg r2; some ⟨h.objs, (r, i) :: h.regs⟩
  | .add r r1 r2 => do
      let f1 ← h.obj r1; let f2 ← h.obj r2
      some (h.alloc r fun a => f1 a + f2 a)
  | .mul r n r1 => do let f ← h.obj r1; some (h.alloc r fun a => f a * n)
  | .iadd r1 r2 => do
      let i ← h.reg r1
      let f1 ← h.objs[i]?
      let f2 ← h.obj r2
      some ⟨h.objs.set i (fun a => f1 a + f2 a), h.regs⟩
  | .hill r r1 => do let f ← h.obj r1; some (h.alloc r f)

def run (h : AHeap α) : List (Op α) → Option (AHeap α)
  | [] => some h
  | op :: ops => (h.step op).bind fun h' => h'.run ops

theorem run_cons (h : AHeap α) (op : Op α) (ops : List (Op α)) :
    h.run (op :: ops) = (h.step op).bind fun h' => h'.run ops := rfl

end AHeap

section
variable {α : Type} [CommSemiring α]

def Heap.abs (h : Heap α) : AHeap α := ⟨h.objs.map fun s => s.cnt, h.regs⟩

/-- a `formula({atom: count})` statement passes a dict: distinct keys -/
def Op.wf : Op α → Prop
  | .dict _ t => KeysNodup t
  | _ => True

theorem Heap.abs_reg (h : Heap α) (r : Nat) : h.abs.reg r = h.reg r := rfl

theorem Heap.abs_objs_get (h : Heap α) (i : Nat) : h.abs.objs[i]? = (h.objs[i]?).map fun s => s.cnt :=
  List.getElem?_map

theorem Heap.abs_obj (h : Heap α) (r : Nat) : h.abs.obj r = (h.obj r).map fun s => s.cnt := by
  unfold AHeap.obj Heap.obj
  rw [Heap.abs_reg]
  cases h.reg r with
  | none => rfl
  | some i => exact h.abs_objs_get i

/-! A statement changes the heap in one of three ways: a new object, a second name, an object
overwritten.  Each commutes with the abstraction. -/

theorem Heap.abs_alloc (h : Heap α) (r : Nat) (s : Items α) :
    (h.alloc r s).abs = h.abs.alloc r s.cnt := by
  simp [Heap.abs, Heap.alloc, AHeap.alloc]

theorem Heap.abs_alias (h : Heap α) (r i : Nat) :
    Heap.abs ⟨h.objs, (r, i) :: h.regs⟩ = ⟨h.abs.objs, (r, i) :: h.abs.regs⟩ := rfl

theorem Heap.abs_set (h : Heap α) (i : Nat) (s : Items α) :
    Heap.abs ⟨h.objs.set i s, h.regs⟩ = ⟨h.abs.objs.set i s.cnt, h.abs.regs⟩ := by
  rw [Heap.abs, Heap.abs, List.map_set]

theorem cnt_addS_fun (s t : Items α) : (addS s t).cnt = fun a => s.cnt a + t.cnt a :=
  funext (cnt_addS s t)

theorem hillS_cnt_fun (sym : Nat → Nat → Nat) (t : List (Atom × α)) (hk : KeysNodup t) :
    (hillS sym t).cnt = lookupD t := by
  funext a
  rw [cnt_hillS, lookupD_eq_total hk]

theorem hillS_atoms_cnt_fun (sym : Nat → Nat → Nat) (s : Items α) : (hillS sym s.atoms).cnt = s.cnt :=
  funext (cnt_hillS_atoms sym s)

variable [DecidableEq α]

theorem cnt_rmulS_fun (n : α) (s : Items α) : (rmulS n s).cnt = fun a => s.cnt a * n :=
  funext (cnt_rmulS n s)

def Heap.run (sym : Nat → Nat → Nat) (h : Heap α) : List (Op α) → Option (Heap α)
  | [] => some h
  | op :: ops => (h.step sym op).bind fun h' => h'.run sym ops

theorem Heap.run_cons (sym : Nat → Nat → Nat) (h : Heap α) (op : Op α) (ops : List (Op α)) :
    h.run sym (op :: ops) = (h.step sym op).bind fun h' => h'.run sym ops := rfl

/-- both steps bind the same registers and objects, so the abstraction moves inside the binds, past
    the heap change, and onto the structure built, whose counts are those the specification gives -/
theorem Heap.step_refines (sym : Nat → Nat → Nat) (h : Heap α) (op : Op α) (hw : op.wf) :
    (h.step sym op).map Heap.abs = h.abs.step op := by
  cases op with
  | dict r t => simp only [Heap.step, AHeap.step, Option.map_some, Heap.abs_alloc, hillS_cnt_fun sym t hw]
  | _ =>
    simp only [Heap.step, AHeap.step, Heap.abs_obj, Heap.abs_reg, Heap.abs_objs_get, Option.bind_eq_bind,
      Option.map_bind, Option.bind_map, Option.map_some, Function.comp_def, Heap.abs_alloc, Heap.abs_alias,
      Heap.abs_set, cnt_addS_fun, cnt_rmulS_fun, hillS_atoms_cnt_fun]

end
end PtModel
