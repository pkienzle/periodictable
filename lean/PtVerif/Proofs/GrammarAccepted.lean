import PtVerif.Proofs.GrammarSound
/-!
# Brackets balance and atoms are defined in every token-well-formed derivation (C01)

In the text of a derivation each kind of bracket – `( )`, `[ ]`, `{ }` – opens as often as it
closes; a derivation denotes an atom only where `Elem.atom` finds the symbol in the table, the
isotope in the entry's isotope list and the charge in its ion list.  Both by structural induction
over derivations.  An accepted string is such a text and the formula returned is what the
derivation denotes (`parse_sound`), so both hold of everything the parser accepts, for every table
and every string (`C01.unbalanced_rejected`, `C01.parse_atoms_defined`).
-/
namespace PtModel.Grammar

/-! ## balanced brackets -/

/-- one of the six bracket characters -/
def isBr (x : Char) : Bool :=
  x.toNat = 40 || x.toNat = 41 || x.toNat = 91 || x.toNat = 93 || x.toNat = 123 || x.toNat = 125

def NoBr (a : List Char) : Prop := ∀ x ∈ a, isBr x = false

/-- opening minus closing occurrences -/
def diff (o c : Char) (s : List Char) : Int := (s.count o : Int) - (s.count c : Int)

theorem diff_nil (o c : Char) : diff o c [] = 0 := by simp [diff]

theorem diff_append (o c : Char) (a b : List Char) : diff o c (a ++ b) = diff o c a + diff o c b := by
  simp only [diff, List.count_append, Int.natCast_add]; omega

theorem diff_cons (o c x : Char) (a : List Char) :
    diff o c (x :: a) = (if x = o then 1 else 0) - (if x = c then 1 else 0) + diff o c a := by
  simp only [diff, List.count_cons, beq_iff_eq, Int.natCast_add]
  split <;> split <;> simp <;> omega

def Pair (o c : Char) : Prop := (o = '(' ∧ c = ')') ∨ (o = '[' ∧ c = ']') ∨ (o = '{' ∧ c = '}')

theorem Pair.br {o c : Char} (h : Pair o c) : isBr o = true ∧ isBr c = true := by
  rcases h with ⟨rfl, rfl⟩ | ⟨rfl, rfl⟩ | ⟨rfl, rfl⟩ <;> exact ⟨by decide, by decide⟩

theorem count_noBr {ch : Char} (h : isBr ch = true) {a : List Char} (ha : NoBr a) : a.count ch = 0 := by
  rw [List.count_eq_zero]
  intro hm
  rw [ha ch hm] at h
  cases h

theorem diff_noBr {o c : Char} (hp : Pair o c) {a : List Char} (ha : NoBr a) : diff o c a = 0 := by
  simp [diff, count_noBr hp.br.1 ha, count_noBr hp.br.2 ha]

theorem isBr_false_of_code {x : Char}
    (h : x.toNat ≠ 40 ∧ x.toNat ≠ 41 ∧ x.toNat ≠ 91 ∧ x.toNat ≠ 93 ∧ x.toNat ≠ 123 ∧ x.toNat ≠ 125) :
    isBr x = false := by
  simp [isBr, h.1, h.2.1, h.2.2.1, h.2.2.2.1, h.2.2.2.2.1, h.2.2.2.2.2]

theorem NoBr.nil : NoBr [] := List.forall_mem_nil _
theorem NoBr.append {a b : List Char} (ha : NoBr a) (hb : NoBr b) : NoBr (a ++ b) :=
  List.forall_mem_append.2 ⟨ha, hb⟩
theorem NoBr.cons {x : Char} {a : List Char} (hx : isBr x = false) (ha : NoBr a) : NoBr (x :: a) :=
  List.forall_mem_cons.2 ⟨hx, ha⟩

theorem noBr_of_allWs {b : List Char} (h : allWs b = true) : NoBr b := by
  intro x hx
  have := allWs_iff.1 h x hx
  rw [isWs_iff] at this
  exact isBr_false_of_code (by omega)

theorem noBr_of_allDig {b : List Char} (h : AllDig b) : NoBr b := by
  intro x hx
  have := h x hx
  rw [isDig_iff] at this
  exact isBr_false_of_code (by omega)

theorem noBr_of_okWhole {b : List Char} (h : okWhole b = true) : NoBr b := by
  obtain ⟨d, r, rfl, h1, _, h3⟩ := okWhole_head h
  exact noBr_of_allDig (AllDig.cons h1 h3)

theorem noBr_of_symOK {b : List Char} (h : symOK b = true) : NoBr b := by
  match b, h with
  | [u], h =>
    simp only [symOK] at h
    rw [isUp_iff] at h
    exact NoBr.cons (isBr_false_of_code (by omega)) NoBr.nil
  | [u, l], h =>
    simp only [symOK, Bool.and_eq_true] at h
    have h1 := (isUp_iff u).1 h.1
    have h2 := (isLo_iff l).1 h.2
    exact NoBr.cons (isBr_false_of_code (by omega)) (NoBr.cons (isBr_false_of_code (by omega)) NoBr.nil)

theorem noBr_cntTok {t : CntTok} (h : t.ok = true) : NoBr t.text := by
  cases t with
  | none => exact NoBr.nil
  | whole ds => exact noBr_of_okWhole h
  | fract i f =>
    obtain ⟨hi, hf, _⟩ := CntTok.fract_ok_iff.1 h
    apply NoBr.append
    · rcases hi with rfl | rfl | hi
      · exact NoBr.nil
      · exact NoBr.cons (by decide) NoBr.nil
      · exact noBr_of_okWhole hi
    · exact NoBr.cons (by decide) (noBr_of_allDig hf)

/-! Each proof below splits the text at its literal characters, drops the bracket-free pieces
(`diff_noBr`) and is left with a closed statement about the literals for each of the three pairs. -/

section
variable {o c : Char} (hp : Pair o c)
include hp

theorem diff_iso (t : IsoTok) (h : t.ok = true) : diff o c t.text = 0 := by
  simp only [IsoTok.ok, Bool.and_eq_true] at h
  simp only [IsoTok.text, diff_cons, diff_append, diff_nil, diff_noBr hp (noBr_of_allWs h.1.1),
    diff_noBr hp (noBr_of_okWhole h.1.2), diff_noBr hp (noBr_of_allWs h.2)]
  rcases hp with ⟨rfl, rfl⟩ | ⟨rfl, rfl⟩ | ⟨rfl, rfl⟩ <;> decide

theorem diff_ion (t : IonTok) (h : t.ok = true) : diff o c t.text = 0 := by
  simp only [IonTok.ok, Bool.and_eq_true, Bool.or_eq_true, List.isEmpty_iff] at h
  have hmag : NoBr t.mag := by
    rcases h.1.2 with h' | h'
    · rw [h']; exact NoBr.nil
    · exact noBr_of_okWhole h'
  simp only [IonTok.text, diff_cons, diff_append, diff_nil, diff_noBr hp (noBr_of_allWs h.1.1),
    diff_noBr hp hmag, diff_noBr hp (noBr_of_allWs h.2)]
  rcases hp with ⟨rfl, rfl⟩ | ⟨rfl, rfl⟩ | ⟨rfl, rfl⟩ <;> cases t.neg <;> decide

theorem diff_elem (e : Elem) (h : e.ok = true) : diff o c e.text = 0 := by
  simp only [Elem.ok, Bool.and_eq_true] at h
  obtain ⟨⟨⟨⟨hpre, hsym⟩, hiso⟩, hion⟩, hcnt⟩ := h
  have h3 : diff o c (optText IsoTok.text e.iso) = 0 := by
    cases hi : e.iso with
    | none => exact diff_nil o c
    | some t => rw [hi] at hiso; exact diff_iso hp t hiso
  have h4 : diff o c (optText IonTok.text e.ion) = 0 := by
    cases hi : e.ion with
    | none => exact diff_nil o c
    | some t => rw [hi] at hion; exact diff_ion hp t hion
  simp only [Elem.text, diff_append, diff_noBr hp (noBr_of_allWs hpre), diff_noBr hp (noBr_of_symOK hsym),
    h3, h4, diff_noBr hp (noBr_cntTok hcnt)]
  rfl

theorem diff_elems : ∀ (els : List Elem), elemsOk els = true → diff o c (elemsText els) = 0
  | [], _ => diff_nil o c
  | e :: r, h => by
    simp only [elemsOk, Bool.and_eq_true] at h
    simp only [elemsText, diff_append, diff_elem hp e h.1, diff_elems r h.2]
    rfl

end

mutual
theorem diff_group (o c : Char) (hp : Pair o c) : (g : Group) → g.wf = true → diff o c g.text = 0
  | .implicit lead els, h => by
    simp only [Group.wf, Bool.and_eq_true] at h
    simp only [Group.text, diff_append, diff_noBr hp (noBr_cntTok h.1.1), diff_elems hp els h.1.2]
    rfl
  | .explicit b0 b1 inner b2 b3 cnt, h => by
    simp only [Group.wf, Bool.and_eq_true] at h
    obtain ⟨⟨⟨⟨⟨h0, h1⟩, h2⟩, h3⟩, hcnt⟩, hin⟩ := h
    simp only [Group.text, diff_append, diff_cons, diff_noBr hp (noBr_of_allWs h0),
      diff_noBr hp (noBr_of_allWs h1), diff_noBr hp (noBr_of_allWs h2), diff_noBr hp (noBr_of_allWs h3),
      diff_noBr hp (noBr_cntTok hcnt), diff_comp o c hp inner hin]
    rcases hp with ⟨rfl, rfl⟩ | ⟨rfl, rfl⟩ | ⟨rfl, rfl⟩ <;> decide
theorem diff_comp (o c : Char) (hp : Pair o c) : (d : Comp) → d.wf = true → diff o c d.text = 0
  | .one g, h => diff_group o c hp g h
  | .more g sep rest, h => by
    simp only [Comp.wf, Bool.and_eq_true] at h
    obtain ⟨⟨⟨hg, hb1⟩, hb2⟩, hr⟩ := h
    have hsep : diff o c sep.text = 0 := by
      unfold Sep.text
      split
      · rw [diff_append, diff_cons, diff_noBr hp (noBr_of_allWs hb1), diff_noBr hp (noBr_of_allWs hb2)]
        rcases hp with ⟨rfl, rfl⟩ | ⟨rfl, rfl⟩ | ⟨rfl, rfl⟩ <;> decide
      · rw [diff_append, diff_noBr hp (noBr_of_allWs hb1), diff_noBr hp (noBr_of_allWs hb2)]; rfl
    simp only [Comp.text, diff_append, diff_group o c hp g hg, hsep, diff_comp o c hp rest hr]
    rfl
end

theorem diff_dens {o c : Char} (hp : Pair o c) (d : DensTok) (h : d.ok = true) : diff o c d.text = 0 := by
  simp only [DensTok.ok, Bool.and_eq_true] at h
  obtain ⟨⟨⟨h0, h1⟩, hc⟩, _⟩ := h
  have dt : diff o c d.tagText = 0 := by
    unfold DensTok.tagText
    split
    · rw [diff_append, diff_noBr hp (noBr_of_allWs h1), diff_cons]
      rcases hp with ⟨rfl, rfl⟩ | ⟨rfl, rfl⟩ | ⟨rfl, rfl⟩ <;> decide
    · rw [diff_append, diff_noBr hp (noBr_of_allWs h1), diff_cons]
      rcases hp with ⟨rfl, rfl⟩ | ⟨rfl, rfl⟩ | ⟨rfl, rfl⟩ <;> decide
    · exact diff_nil o c
  simp only [DensTok.text, diff_append, diff_cons, diff_noBr hp (noBr_of_allWs h0),
    diff_noBr hp (noBr_cntTok hc), dt]
  rcases hp with ⟨rfl, rfl⟩ | ⟨rfl, rfl⟩ | ⟨rfl, rfl⟩ <;> decide

theorem Compound.brackets_balanced {o c : Char} (hp : Pair o c) {D : Compound} (h : D.wf = true) :
    D.text.count o = D.text.count c := by
  have : diff o c D.text = 0 := by
    cases D with
    | empty b => exact diff_noBr hp (noBr_of_allWs h)
    | full lead comp dens trail =>
      simp only [Compound.wf, Bool.and_eq_true, List.isEmpty_iff] at h
      obtain ⟨⟨⟨rfl, ht⟩, hc⟩, hd⟩ := h
      have dd : diff o c (optText DensTok.text dens) = 0 := by
        cases dens with
        | none => exact diff_nil o c
        | some d => exact diff_dens hp d hd
      simp only [Compound.text, diff_append, diff_comp o c hp comp hc, dd, diff_noBr hp (noBr_of_allWs ht),
        diff_nil]
      rfl
  unfold diff at this
  omega

/-! ## defined atoms -/

/-- the atom is one the table defines: an entry of the table with that `Z`; the mass number is
    the one the entry itself names (0 for an element, 2/3 for D/T) or one of its isotopes; the
    charge is 0 or one of its ions -/
def Defined (T : Table) (x : Atom) : Prop :=
  ∃ e ∈ T, e.z = x.z ∧ (x.a = e.alias ∨ (e.alias = 0 ∧ x.a ∈ e.isos)) ∧ (x.q = 0 ∨ x.q ∈ e.ions)

mutual
def AllAtomsF (P : Atom → Prop) : Frag Cnt → Prop
  | .atom x => P x
  | .group g => AllAtoms P g
/-- every atom at every depth satisfies `P` -/
def AllAtoms (P : Atom → Prop) : Items Cnt → Prop
  | .nil => True
  | .cons _ f r => AllAtomsF P f ∧ AllAtoms P r
end

theorem AllAtoms.append {P : Atom → Prop} : ∀ {s t : Items Cnt}, AllAtoms P s → AllAtoms P t →
    AllAtoms P (s.append t)
  | .nil, _, _, ht => ht
  | .cons c f r, t, hs, ht => by
    exact ⟨hs.1, AllAtoms.append hs.2 ht⟩

theorem AllAtoms.wrap {P : Atom → Prop} (c : Cnt) {s : Items Cnt} (h : AllAtoms P s) :
    AllAtoms P (wrap c s) := by
  unfold Grammar.wrap
  split
  · exact h
  · simp only [AllAtoms, AllAtomsF]; exact ⟨h, trivial⟩

theorem Elem.atom_defined {T : Table} {e : Elem} {x : Atom} (h : e.atom T = some x) : Defined T x := by
  unfold Elem.atom at h
  split at h
  · simp at h
  · rename_i ent hl
    split at h
    · rename_i hc
      obtain rfl := Option.some.inj h
      refine ⟨ent, List.mem_of_find?_eq_some hl, rfl, ?_, hc.2⟩
      rcases hc.1 with h0 | h1
      · exact Or.inl (if_pos h0)
      · by_cases h0 : e.isoNum = 0
        · exact Or.inl (if_pos h0)
        · exact Or.inr (by simpa [h0] using h1)
    · simp at h

theorem elemsItems_defined {T : Table} : ∀ {els : List Elem} {fs : Items Cnt},
    elemsItems T els = some fs → AllAtoms (Defined T) fs
  | [], fs, h => by obtain rfl := Option.some.inj h; trivial
  | e :: r, fs, h => by
    simp only [elemsItems] at h
    split at h
    · rename_i x gs hx hg
      obtain rfl := Option.some.inj h
      exact ⟨Elem.atom_defined hx, elemsItems_defined hg⟩
    · simp at h

mutual
theorem Group.items_defined {T : Table} : ∀ {g : Group} {fs : Items Cnt},
    g.items T = some fs → AllAtoms (Defined T) fs
  | .implicit lead els, fs, h => by
    simp only [Group.items] at h
    split at h
    · rename_i gs hg
      obtain rfl := Option.some.inj h
      exact (elemsItems_defined hg).wrap _
    · simp at h
  | .explicit _ _ inner _ _ cnt, fs, h => by
    simp only [Group.items] at h
    split at h
    · rename_i gs hg
      obtain rfl := Option.some.inj h
      exact (Comp.items_defined hg).wrap _
    · simp at h
theorem Comp.items_defined {T : Table} : ∀ {d : Comp} {fs : Items Cnt},
    d.items T = some fs → AllAtoms (Defined T) fs
  | .one g, fs, h => Group.items_defined (g := g) h
  | .more g _ rest, fs, h => by
    simp only [Comp.items] at h
    split at h
    · rename_i x y hx hy
      obtain rfl := Option.some.inj h
      exact (Group.items_defined hx).append (Comp.items_defined hy)
    · simp at h
end

theorem Compound.result_defined {T : Table} {D : Compound} {fs : Items Cnt} {d : Option Dens}
    (h : D.result T = some (fs, d)) : AllAtoms (Defined T) fs := by
  cases D with
  | empty b => obtain ⟨rfl, _⟩ := Prod.mk.inj (Option.some.inj h); trivial
  | full lead comp dens trail =>
    simp only [Compound.result] at h
    split at h
    · rename_i gs hg
      obtain ⟨rfl, _⟩ := Prod.mk.inj (Option.some.inj h)
      exact Comp.items_defined hg
    · simp at h

end PtModel.Grammar
