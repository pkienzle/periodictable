import PtVerif.Model.GrammarSpec
import PtVerif.Proofs.Formula
/-!
# What a derivation denotes is the documented reading of its composition

`Items.cnt` (Model/Formula.lean: "a count multiplies its group, repeated atoms add", proved equal
to `Formula.atoms` in C02) of the structure a derivation denotes equals `den`, the reading written
directly on the derivation.  Counts are compared as rationals.
-/
namespace PtModel.Grammar

mutual
def ratFrag : Frag Cnt → Frag ℚ
  | .atom x => .atom x
  | .group g => .group (ratItems g)
/-- the structure with every exact decimal count as a rational -/
def ratItems : Items Cnt → Items ℚ
  | .nil => .nil
  | .cons c f r => .cons c.toRat (ratFrag f) (ratItems r)
end

theorem ratItems_append : ∀ (s t : Items Cnt), ratItems (s.append t) = (ratItems s).append (ratItems t)
  | .nil, t => by simp [Items.append, ratItems]
  | .cons c f r, t => by simp [Items.append, ratItems, ratItems_append r t]

theorem Cnt.toRat_of_isOne (c : Cnt) (h : c.isOne = true) : c.toRat = 1 := by
  unfold Cnt.isOne at h
  have h' : c.num = 10 ^ c.dec := by simpa using h
  unfold Cnt.toRat
  rw [h']
  have : ((10 ^ c.dec : ℕ) : ℚ) ≠ 0 := by
    have h0 : (10 ^ c.dec : ℕ) ≠ 0 := Nat.pos_iff_ne_zero.1 (Nat.pow_pos (by omega))
    exact_mod_cast h0
  exact div_self this

theorem cnt_wrap (c : Cnt) (fs : Items Cnt) (a : Atom) :
    (ratItems (wrap c fs)).cnt a = (ratItems fs).cnt a * c.toRat := by
  unfold wrap
  split
  · rename_i h; rw [Cnt.toRat_of_isOne c h]; ring
  · simp [ratItems, ratFrag, Items.cnt, Frag.cnt]

theorem elems_den (T : Table) (a : Atom) : ∀ (els : List Elem) (fs : Items Cnt),
    elemsItems T els = some fs → (ratItems fs).cnt a = elemsDen T a els
  | [], fs, h => by
    simp [elemsItems] at h; subst h
    simp [ratItems, Items.cnt, elemsDen]
  | e :: r, fs, h => by
    simp only [elemsItems] at h
    split at h
    · rename_i x gs hx hg
      simp at h; subst h
      have ih := elems_den T a r gs hg
      simp only [ratItems, ratFrag, Items.cnt, Frag.cnt, elemsDen, hx, ih]
      by_cases hxa : x = a
      · simp [hxa]
      · have : ¬ (some x = some a) := by intro e; exact hxa (Option.some.inj e)
        simp [hxa, this]
    · simp at h

mutual
theorem group_den (T : Table) (a : Atom) : (g : Group) → (fs : Items Cnt) → g.items T = some fs →
    (ratItems fs).cnt a = g.den T a
  | .implicit lead els, fs, h => by
    simp only [Group.items] at h
    split at h
    · rename_i gs hg
      simp at h; subst h
      rw [cnt_wrap, elems_den T a els gs hg]
      simp [Group.den]
    · simp at h
  | .explicit _ _ inner _ _ cnt, fs, h => by
    simp only [Group.items] at h
    split at h
    · rename_i gs hg
      simp at h; subst h
      rw [cnt_wrap, comp_den T a inner gs hg]
      simp [Group.den]
    · simp at h
theorem comp_den (T : Table) (a : Atom) : (d : Comp) → (fs : Items Cnt) → d.items T = some fs →
    (ratItems fs).cnt a = d.den T a
  | .one g, fs, h => by
    simpa [Comp.den] using group_den T a g fs h
  | .more g _ rest, fs, h => by
    simp only [Comp.items] at h
    split at h
    · rename_i x y hx hy
      simp at h; subst h
      rw [ratItems_append, Items.cnt_append, group_den T a g x hx, comp_den T a rest y hy]
      simp [Comp.den]
    · simp at h
end

end PtModel.Grammar
