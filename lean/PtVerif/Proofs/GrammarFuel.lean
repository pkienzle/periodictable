import PtVerif.Proofs.GrammarSound
/-!
# The fuel of the grammar model is no restriction

A successful sub-parser returns its input minus the text of the token it read (the inversion
lemmas of `GrammarSound`), and the text of an element or a group is not empty; hence with fuel
`≥ 2·length + 2` one more unit of fuel never changes any result – success, failure or abort.
`parse` runs with `fuelFor s = 2·length + 4`.
-/
namespace PtModel.Grammar

theorem length_le_of_eq_append {s t r : List Char} (h : s = t ++ r) : r.length ≤ s.length := by
  rw [h, List.length_append]; omega

theorem length_lt_of_eq_append {s t r : List Char} (h : s = t ++ r) (ht : t ≠ []) :
    r.length < s.length := by
  have := List.length_pos_iff.2 ht
  rw [h, List.length_append]; omega

theorem elem_text_ne_nil {e : Elem} (h : e.ok = true) : e.text ≠ [] := by
  obtain ⟨u, cs, ht, -, -⟩ := elem_text_head h
  simp [ht]

theorem group_text_ne_nil : ∀ {g : Group}, g.wf = true → g.text ≠ []
  | .implicit _ [], h => by simp [Group.wf] at h
  | .implicit _ (e :: _), h => by
    simp only [Group.wf, elemsOk, Bool.and_eq_true] at h
    simp [Group.text, elemsText, elem_text_ne_nil h.1.2.1]
  | .explicit .., _ => by simp [Group.text]

theorem skipWs_length_le (s : List Char) : (skipWs s).length ≤ s.length :=
  let ⟨_, _, h⟩ := skipWs_split s; length_le_of_eq_append h

theorem skipSep_length_le (s : List Char) : (skipSep s).length ≤ s.length :=
  let ⟨_, _, _, h⟩ := skipSep_inv s; length_le_of_eq_append h

theorem pCount_length {s : List Char} {c : Cnt} {r : List Char} (h : pCount s = .ok (c, r)) :
    r.length ≤ s.length :=
  let ⟨_, _, hs, _⟩ := pCount_inv h; length_le_of_eq_append hs

theorem pLit_length {ch : Char} {s r : List Char} (h : pLit ch s = some r) : r.length < s.length :=
  let ⟨b, _, hs⟩ := pLit_inv h
  length_lt_of_eq_append (t := b ++ [ch]) (by simpa using hs) (by simp)

theorem pElement_length {T : Table} {s : List Char} {x : Cnt × Atom} {r : List Char}
    (h : pElement T s = .ok (x, r)) : r.length < s.length :=
  let ⟨_, hok, hs, _⟩ := pElement_inv (c := x.1) (x := x.2) h
  length_lt_of_eq_append hs (elem_text_ne_nil hok)

theorem pGroup_length {T : Table} {n : Nat} {s : List Char} {fs : Items Cnt} {r : List Char}
    (h : pGroup T n s = .ok (fs, r)) : r.length < s.length :=
  let ⟨_, hw, hs, _⟩ := pGroup_inv h
  length_lt_of_eq_append hs (group_text_ne_nil hw)

theorem pElements_stable (T : Table) : ∀ (n : Nat) (s : List Char), s.length ≤ n →
    pElements T n s = pElements T (n + 1) s
  | 0, s, h => by
    have : s = [] := by cases s <;> simp_all
    subst this
    simp [pElements, pElement, pSymbol, skipWs]
  | n + 1, s, h => by
    rw [pElements, pElements]
    split
    · rename_i c a r he
      have h1 := pElement_length he
      rw [pElements_stable T n r (by omega)]
    · rfl
    · rfl

theorem pImplicit_stable (T : Table) (n : Nat) (s : List Char) (h : s.length ≤ n) :
    pImplicit T n s = pImplicit T (n + 1) s := by
  unfold pImplicit
  split
  · rfl
  · rename_i c r hc
    have := pCount_length hc
    rw [pElements_stable T n r (by omega)]

theorem group_stable (T : Table) : ∀ (n : Nat),
    (∀ s : List Char, 2 * s.length + 1 ≤ n → pGroup T n s = pGroup T (n + 1) s) ∧
    (∀ s : List Char, 2 * s.length + 2 ≤ n → pComposite T n s = pComposite T (n + 1) s) ∧
    (∀ s : List Char, 2 * s.length + 2 ≤ n → pMore T n s = pMore T (n + 1) s)
  | 0 => by
    refine ⟨?_, ?_, ?_⟩
    · intro s h; omega
    · intro s h; omega
    · intro s h; omega
  | n + 1 => by
    obtain ⟨ihG, ihC, ihM⟩ := group_stable T n
    have hC : ∀ s : List Char, 2 * s.length + 2 ≤ n + 1 → pComposite T (n + 1) s = pComposite T (n + 2) s := by
      intro s h
      rw [pComposite, pComposite, ihG s (by omega)]
      split
      · rfl
      · rename_i g r1 hg
        have h1 := pGroup_length hg
        rw [ihM r1 (by omega)]
    refine ⟨?_, hC, ?_⟩
    · intro s h
      rw [pGroup, pGroup, pImplicit_stable T n s (by omega)]
      split
      · rfl
      · rfl
      · split
        · rfl
        · rename_i r1 hl
          have h1 := pLit_length hl
          have h1' := skipWs_length_le r1
          rw [ihC (skipWs r1) (by omega)]
    · intro s h
      have h0 := skipSep_length_le s
      rw [pMore_succ, pMore_succ, ihG (skipSep s) (by omega), hC (skipSep s) (by omega)]

theorem pComposite_stable (T : Table) (s : List Char) {n m : Nat} (hn : 2 * s.length + 2 ≤ n) (hm : n ≤ m) :
    pComposite T n s = pComposite T m s := by
  induction hm with
  | refl => rfl
  | @step m hm ih => rw [ih, (group_stable T m).2.1 s (Nat.le_trans hn hm)]

theorem pComposite_fuel (T : Table) (s : List Char) (n : Nat) (h : fuelFor s ≤ n) :
    pComposite T n s = pComposite T (fuelFor s) s :=
  (pComposite_stable T s (by unfold fuelFor; omega) h).symm

end PtModel.Grammar
