import PtVerif.Model.Grammar
/-!
# Lexical lemmas of the grammar model: character classes, what a text begins with, blanks, digit
strings

The two scanners of the model are the library's: `skipWs` is `dropWhile isWs`, `digits` is
`takeWhile isDig` with `dropWhile isDig`.  Ahead of them, the laws of `Items.append` that the proofs
about the parser's results use.  Core Lean only.
-/
namespace PtModel.Grammar

/-! ## `Items.append` -/

theorem nil_append' (t : Items Cnt) : (Items.nil).append t = t := rfl
theorem cons_append' (c : Cnt) (f : Frag Cnt) (r t : Items Cnt) :
    (Items.cons c f r).append t = .cons c f (r.append t) := rfl

theorem _root_.PtModel.Items.append_nil {α : Type} : ∀ (s : Items α), s.append .nil = s
  | .nil => rfl
  | .cons c f r => congrArg (Items.cons c f) (Items.append_nil r)

theorem _root_.PtModel.Items.append_assoc {α : Type} :
    ∀ (s t u : Items α), (s.append t).append u = s.append (t.append u)
  | .nil, _, _ => rfl
  | .cons c f r, t, u => congrArg (Items.cons c f) (Items.append_assoc r t u)

/-! ## characters -/

theorem isDig_iff (c : Char) : isDig c = true ↔ 48 ≤ c.toNat ∧ c.toNat ≤ 57 := by
  simp [isDig]

theorem isDig_false_iff (c : Char) : isDig c = false ↔ c.toNat < 48 ∨ 57 < c.toNat := by
  simp [isDig]; omega

theorem isUp_iff (c : Char) : isUp c = true ↔ 65 ≤ c.toNat ∧ c.toNat ≤ 90 := by
  simp [isUp]

theorem isUp_false_iff (c : Char) : isUp c = false ↔ c.toNat < 65 ∨ 90 < c.toNat := by
  simp [isUp]; omega

theorem isLo_iff (c : Char) : isLo c = true ↔ 97 ≤ c.toNat ∧ c.toNat ≤ 122 := by
  simp [isLo]

theorem isLo_false_iff (c : Char) : isLo c = false ↔ c.toNat < 97 ∨ 122 < c.toNat := by
  simp [isLo]; omega

theorem isWs_iff (c : Char) : isWs c = true ↔ c.toNat = 32 ∨ c.toNat = 9 ∨ c.toNat = 10 ∨ c.toNat = 13 := by
  simp [isWs, or_assoc]

theorem isWs_false_iff (c : Char) :
    isWs c = false ↔ c.toNat ≠ 32 ∧ c.toNat ≠ 9 ∧ c.toNat ≠ 10 ∧ c.toNat ≠ 13 := by
  simp [isWs, and_assoc]

theorem isWs_false_of_isDig {c : Char} (h : isDig c = true) : isWs c = false := by
  rw [isDig_iff] at h; rw [isWs_false_iff]; omega

theorem isWs_false_of_isUp {c : Char} (h : isUp c = true) : isWs c = false := by
  rw [isUp_iff] at h; rw [isWs_false_iff]; omega

theorem ne_of_toNat_ne {c d : Char} (h : c.toNat ≠ d.toNat) : c ≠ d := fun e => h (by rw [e])

/-! ## what a text begins with

The side conditions on the text after a token (`NoWsHead`, `NoDigHead` below; `NoNumHead`, `AfterTok`
… in GrammarTok) all have the form `∀ c, r.head? = some c → P c`. -/

theorem head_nil {P : Char → Prop} : ∀ c, ([] : List Char).head? = some c → P c := fun _ h => nomatch h

theorem head_cons {P : Char → Prop} {c : Char} {cs : List Char} (h : P c) :
    ∀ d, (c :: cs).head? = some d → P d := by
  intro d hd
  obtain rfl : c = d := Option.some.inj hd
  exact h

theorem head_append {P : Char → Prop} {a b : List Char}
    (ha : ∀ c, a.head? = some c → P c) (hb : ∀ c, b.head? = some c → P c) :
    ∀ c, (a ++ b).head? = some c → P c := by
  cases a with
  | nil => exact hb
  | cons x xs => exact ha

theorem head_dropWhile (p : Char → Bool) (s : List Char) :
    ∀ c, (s.dropWhile p).head? = some c → p c = false := by
  intro c hc
  have := List.head?_dropWhile_not p s
  rw [hc] at this
  exact this

/-! ## blanks -/

def NoWsHead (r : List Char) : Prop := ∀ c, r.head? = some c → isWs c = false

def AllWs (b : List Char) : Prop := ∀ c ∈ b, isWs c = true

theorem AllWs.nil : AllWs [] := List.forall_mem_nil _

theorem AllWs.append {a b : List Char} (ha : AllWs a) (hb : AllWs b) : AllWs (a ++ b) :=
  List.forall_mem_append.2 ⟨ha, hb⟩

theorem skipWs_eq (s : List Char) : skipWs s = s.dropWhile isWs := by
  induction s with
  | nil => rfl
  | cons c cs ih => rw [skipWs, List.dropWhile_cons, ih]

theorem skipWs_cons_of_not_ws {c : Char} {cs : List Char} (h : isWs c = false) :
    skipWs (c :: cs) = c :: cs := by
  simp [skipWs, h]

theorem skipWs_of_noWsHead {r : List Char} (h : NoWsHead r) : skipWs r = r := by
  cases r with
  | nil => rfl
  | cons c cs => exact skipWs_cons_of_not_ws (h c rfl)

theorem skipWs_noWsHead (r : List Char) : NoWsHead (skipWs r) := by
  rw [skipWs_eq]; exact head_dropWhile isWs r

theorem skipWs_idem (r : List Char) : skipWs (skipWs r) = skipWs r :=
  skipWs_of_noWsHead (skipWs_noWsHead r)

theorem skipWs_split (s : List Char) : ∃ b, AllWs b ∧ s = b ++ skipWs s :=
  ⟨s.takeWhile isWs, List.all_eq_true.1 List.all_takeWhile,
    by rw [skipWs_eq, List.takeWhile_append_dropWhile]⟩

theorem skipWs_append_allWs {b : List Char} (hb : AllWs b) (r : List Char) : skipWs (b ++ r) = skipWs r := by
  rw [skipWs_eq, skipWs_eq, List.dropWhile_append_of_pos hb]

theorem skipWs_allWs_noWs {b r : List Char} (hb : AllWs b) (hr : NoWsHead r) : skipWs (b ++ r) = r := by
  rw [skipWs_append_allWs hb r, skipWs_of_noWsHead hr]

theorem skipWs_of_allWs {b : List Char} (hb : AllWs b) : skipWs b = [] := by
  simpa using skipWs_allWs_noWs hb (r := []) head_nil

theorem allWs_of_skipWs_isEmpty {s : List Char} (h : (skipWs s).isEmpty = true) : AllWs s := by
  obtain ⟨b, hb, hs⟩ := skipWs_split s
  rw [List.isEmpty_iff.1 h, List.append_nil] at hs
  rw [hs]; exact hb

theorem head_ws_append {P : Char → Prop} (hP : ∀ w, isWs w = true → P w) {b Z : List Char} (hb : AllWs b)
    (hz : ∀ c, Z.head? = some c → P c) : ∀ c, (b ++ Z).head? = some c → P c := by
  cases b with
  | nil => exact hz
  | cons w ws => exact head_cons (hP w (hb w List.mem_cons_self))

/-! ## digit strings -/

def AllDig (ds : List Char) : Prop := ∀ c ∈ ds, isDig c = true
def NoDigHead (r : List Char) : Prop := ∀ c, r.head? = some c → isDig c = false

theorem AllDig.nil : AllDig [] := List.forall_mem_nil _
theorem AllDig.cons {c : Char} {cs : List Char} (hc : isDig c = true) (h : AllDig cs) : AllDig (c :: cs) :=
  List.forall_mem_cons.2 ⟨hc, h⟩
theorem AllDig.append {a b : List Char} (ha : AllDig a) (hb : AllDig b) : AllDig (a ++ b) :=
  List.forall_mem_append.2 ⟨ha, hb⟩
theorem AllDig.tail {c : Char} {cs : List Char} (h : AllDig (c :: cs)) : AllDig cs :=
  (List.forall_mem_cons.1 h).2
theorem AllDig.head {c : Char} {cs : List Char} (h : AllDig (c :: cs)) : isDig c = true :=
  (List.forall_mem_cons.1 h).1

theorem digits_eq (s : List Char) : digits s = (s.takeWhile isDig, s.dropWhile isDig) := by
  induction s with
  | nil => rfl
  | cons c cs ih =>
    rw [digits, List.takeWhile_cons, List.dropWhile_cons, ih]
    cases isDig c with
    | true => rfl
    | false => rfl

theorem digits_append {ds rest : List Char} (hds : AllDig ds) (hr : NoDigHead rest) :
    digits (ds ++ rest) = (ds, rest) := by
  rw [digits_eq, List.takeWhile_append_of_pos hds, List.dropWhile_append_of_pos hds]
  cases rest with
  | nil => simp
  | cons c cs => simp [hr c rfl]

theorem digits_allDig (s : List Char) : AllDig (digits s).1 := by
  rw [digits_eq]; exact List.all_eq_true.1 List.all_takeWhile

theorem digits_split (s : List Char) : (digits s).1 ++ (digits s).2 = s := by
  rw [digits_eq]; exact List.takeWhile_append_dropWhile

theorem digits_noDigHead (s : List Char) : NoDigHead (digits s).2 := by
  rw [digits_eq]; exact head_dropWhile isDig s

/-! ## symbols -/

theorem symOK_head {s : List Char} (h : symOK s = true) : ∃ u cs, s = u :: cs ∧ isUp u = true := by
  match s, h with
  | [u], h => exact ⟨u, [], rfl, by simpa [symOK] using h⟩
  | [u, l], h => exact ⟨u, [l], rfl, by simp [symOK] at h; exact h.1⟩

end PtModel.Grammar
