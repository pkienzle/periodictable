import PtVerif.Proofs.GrammarYield
import PtVerif.Proofs.PrintNum
/-!
# Parsing what the printer wrote (C13): `parse T (strItems T s) = norm (roundItems s)`

What the printer writes for an atom with its count is the text of an `element` of the documented
grammar (`atom_elem`), so it is read back by the general `pElement_elem`.  Above that: structural
induction over the nested formula; the induction hypothesis `Cont` speaks about the two greedy loops
of the grammar at once (`pMore`: groups of a composite; `pTail`: the element loop of an implicit group
followed by the remaining groups), each for all sufficiently large fuel.  The second loop is needed
because a group whose count is exactly 1 (`Q.isOne`) is written without parentheses, so its elements
continue the element run of what stands before it (a count that only rounds to 1 is written `(…)1`).
-/
namespace PtModel.Grammar
open PtModel.Print

/-! ## what the printer writes are tokens of the grammar -/

/-- the count token `showCnt` writes -/
def cntTokOf (c : Cnt) : CntTok :=
  if c.dec = 0 then .whole (natDigits c.num)
  else .fract (natDigits (c.num / 10 ^ c.dec)) (padDigits c.dec (c.num % 10 ^ c.dec))

theorem cntTokOf_text (c : Cnt) : (cntTokOf c).text = showCnt c := by
  unfold cntTokOf showCnt
  split
  · rfl
  · rfl

theorem cntTokOf_val (c : Cnt) : (cntTokOf c).val = c := by
  unfold cntTokOf
  split
  · rename_i h
    obtain ⟨num, dec⟩ := c
    obtain rfl : dec = 0 := h
    rw [CntTok.val, natOf_natDigits]
  · simp [CntTok.val, natOf_append, natOf_natDigits, natOf_padDigits, padDigits_length, Nat.div_add_mod']

theorem cntTokOf_ok (c : Cnt) (hc : c.dec = 0 → 0 < c.num) : (cntTokOf c).ok = true := by
  unfold cntTokOf
  split
  · rename_i h; exact okWhole_natDigits _ (hc h)
  · have hf := allDig_iff.2 (padDigits_allDig c.dec (c.num % 10 ^ c.dec))
    rcases Nat.eq_zero_or_pos (c.num / 10 ^ c.dec) with h | h
    · simp [CntTok.ok, h, natDigits_zero, hf]
    · have hw := okWhole_natDigits _ h
      obtain ⟨d, ds, hd, -⟩ := natDigits_head _ h
      rw [hd] at hw
      simp [CntTok.ok, hw, hf, hd]

theorem pCount_showCnt (c : Cnt) (hc : c.dec = 0 → 0 < c.num) (rest : List Char) (hr : NoNumHead rest) :
    pCount (showCnt c ++ rest) = .ok (c, rest) := by
  simpa [cntTokOf_text, cntTokOf_val] using pCount_tok (cntTokOf c) (cntTokOf_ok c hc) rest hr

/-- the charge tag `chargeText` writes -/
def ionTokOf (q : Int) : Option IonTok :=
  if q = 0 then none
  else some ⟨[], if 1 < q.natAbs then natDigits q.natAbs else [], decide (q < 0), []⟩

theorem ionTokOf_text (q : Int) : optText IonTok.text (ionTokOf q) = chargeText q := by
  unfold ionTokOf chargeText
  split
  · rfl
  · by_cases h : 0 < q
    · simp [optText, IonTok.text, h, Int.not_lt.2 (Int.le_of_lt h)]
    · simp [optText, IonTok.text, h]; omega

theorem ionTokOf_ok (q : Int) : ionOkOpt (ionTokOf q) = true := by
  unfold ionTokOf
  split
  · rfl
  · by_cases h : 1 < q.natAbs
    · simp [ionOkOpt, IonTok.ok, allWs, h, okWhole_natDigits q.natAbs (by omega)]
    · simp [ionOkOpt, IonTok.ok, allWs, h]

theorem ionTokOf_charge (q : Int) : chargeOpt (ionTokOf q) = q := by
  unfold ionTokOf
  split
  · rename_i h; exact h.symm
  · -- the magnitude written is `|q|`, the bare sign standing for 1
    have hm : (if (if 1 < q.natAbs then natDigits q.natAbs else []).isEmpty then 1
        else natOf (if 1 < q.natAbs then natDigits q.natAbs else [])) = q.natAbs := by
      by_cases h : 1 < q.natAbs
      · simp [h, natDigits_ne_nil, natOf_natDigits]
      · simp only [h, if_false, List.isEmpty_nil, if_true]; omega
    simp only [chargeOpt, IonTok.charge, hm]
    by_cases hq : q < 0
    · simp only [hq, decide_true, if_true]; omega
    · simp only [hq, decide_false, Bool.false_eq_true, if_false]; omega

theorem find?_mem_prop {T : Table} {p : Entry → Bool} {e : Entry} (h : T.find? p = some e) :
    e ∈ T ∧ p e = true := ⟨List.mem_of_find?_eq_some h, List.find?_some h⟩

theorem Table.lookup_of_mem {T : Table} (hT : T.wf = true) {e : Entry} (he : e ∈ T) :
    T.lookup e.sym = some e := by
  unfold Table.wf at hT
  rw [List.all_eq_true] at hT
  simpa using hT e he

/-- the element `sym iso? ion? t` for an atom `x` whose symbol is that of the table entry `ent` -/
theorem elem_of_parts {T : Table} {x : Atom} {t : CntTok} (ht : t.ok = true) (ent : Entry) (iso : Option IsoTok)
    (hl : T.lookup ent.sym = some ent) (hs : symOK ent.sym = true) (hi : isoOkOpt iso = true)
    (htxt : isoText T x.z x.a = ent.sym ++ optText IsoTok.text iso) (hz : ent.z = x.z)
    (ha : (if isoNumOpt iso = 0 then ent.alias else isoNumOpt iso) = x.a)
    (hiso : isoNumOpt iso = 0 ∨ ent.alias = 0 ∧ isoNumOpt iso ∈ ent.isos) (hq : x.q = 0 ∨ x.q ∈ ent.ions) :
    ∃ e : Elem, e.ok = true ∧ e.text = atomText T x ++ t.text ∧ e.atom T = some x ∧ e.cnt = t ∧
      e.pre = [] := by
  refine ⟨⟨[], ent.sym, iso, ionTokOf x.q, t⟩, ?_, ?_, ?_, rfl, rfl⟩
  · simp only [Elem.ok, allWs, List.all_nil, hs, hi, ionTokOf_ok, ht, Bool.and_self]
  · simp only [Elem.text, atomText, htxt, ionTokOf_text, List.nil_append, List.append_assoc]
  · simp only [Elem.atom, hl, Elem.isoNum, Elem.charge, ionTokOf_charge, hiso, hq, and_self, if_true, hz]
    cases x; subst ha; rfl

/-- a nameable atom, with any count token after it, is written as an `element` of the grammar that
    denotes it -/
theorem atom_elem {T : Table} (hT : T.wf = true) {x : Atom} (hx : nameable T x = true)
    {t : CntTok} (ht : t.ok = true) :
    ∃ e : Elem, e.ok = true ∧ e.text = atomText T x ++ t.text ∧ e.atom T = some x ∧ e.cnt = t ∧
      e.pre = [] := by
  unfold nameable at hx
  split at hx
  · exact absurd hx Bool.false_ne_true
  · rename_i e0 h0
    obtain ⟨hm0, hp0⟩ := find?_mem_prop h0
    simp only [Bool.and_eq_true, decide_eq_true_eq] at hp0 hx
    obtain ⟨hs0, hx⟩ := hx
    by_cases ha : x.a = 0
    · simp only [ha, if_true, decide_eq_true_eq] at hx
      exact elem_of_parts ht e0 none (Table.lookup_of_mem hT hm0) hs0 rfl
        (by simp only [isoText, ha, elemSym, h0, if_true, optText, List.append_nil])
        hp0.1 (by simp only [isoNumOpt, if_true, hp0.2, ha]) (Or.inl rfl) hx
    · simp only [ha, if_false] at hx
      split at hx
      · rename_i e1 h1
        obtain ⟨hm1, hp1⟩ := find?_mem_prop h1
        simp only [Bool.and_eq_true, decide_eq_true_eq] at hp1 hx
        exact elem_of_parts ht e1 none (Table.lookup_of_mem hT hm1) hx.1 rfl
          (by simp only [isoText, ha, h1, if_false, optText, List.append_nil])
          hp1.1 (by simp only [isoNumOpt, if_true, hp1.2]) (Or.inl rfl) hx.2
      · rename_i h1
        simp only [Bool.and_eq_true, decide_eq_true_eq] at hx
        have hn : isoNumOpt (some ⟨[], natDigits x.a, []⟩) = x.a := natOf_natDigits x.a
        exact elem_of_parts ht e0 (some ⟨[], natDigits x.a, []⟩) (Table.lookup_of_mem hT hm0) hs0
          (by simp only [isoOkOpt, IsoTok.ok, allWs, List.all_nil, okWhole_natDigits x.a (by omega), Bool.and_self])
          (by simp only [isoText, ha, h1, elemSym, h0, if_false, optText, IsoTok.text, List.nil_append,
            List.append_assoc, List.cons_append])
          hp0.1 (by rw [hn, if_neg ha]) (Or.inr ⟨hp0.2, by rw [hn]; exact hx.1⟩) hx.2

/-! ## what follows an item of a printed formula -/

/-- an upper-case letter, a parenthesis, or the end -/
def TailOK (r : List Char) : Prop :=
  ∀ c, r.head? = some c → isUp c = true ∨ c.toNat = 40 ∨ c.toNat = 41

theorem TailOK.code {r : List Char} (h : TailOK r) {c : Char} (hc : r.head? = some c) :
    (65 ≤ c.toNat ∧ c.toNat ≤ 90) ∨ c.toNat = 40 ∨ c.toNat = 41 :=
  (h c hc).imp_left (isUp_iff c).1

theorem TailOK.afterTok {r : List Char} (h : TailOK r) : AfterTok r := by
  intro c hc
  have := h.code hc
  rw [isDig_false_iff, isLo_false_iff]
  omega

theorem TailOK.noNum {r : List Char} (h : TailOK r) : NoNumHead r := h.afterTok.noNum

theorem TailOK.noLo {r : List Char} (h : TailOK r) : NoLoHead r := h.afterTok.noLo

theorem TailOK.noWs {r : List Char} (h : TailOK r) : NoWsHead r := by
  intro c hc
  have := h.code hc
  rw [isWs_false_iff]
  omega

theorem skipSep_of_tailOK {s : List Char} (h : TailOK s) : skipSep s = s := by
  have hs := skipWs_of_noWsHead h.noWs
  have hp : ∀ c, (skipWs s).head? = some c → c.toNat ≠ 43 := by
    rw [hs]
    intro c hc
    have := h.code hc
    omega
  rw [skipSep_of_noPlus hp, hs]


/-! ## one element -/

/-- what `_str_atoms` writes for a count after an atom (nothing for 1) is a count token -/
theorem strCount_tok (c : Q) (hn : 0 < c.num) (hd : 0 < c.den) :
    ∃ t : CntTok, t.ok = true ∧ t.text = (if c.isOne then [] else strCount c) ∧ t.val = round6 c := by
  by_cases h1 : c.isOne = true
  · exact ⟨.none, rfl, by simp [h1, CntTok.text], (round6_of_isOne c hd h1).symm⟩
  · exact ⟨cntTokOf (round6 c), cntTokOf_ok _ (fun _ => round6_pos c hn hd),
      by simp [h1, cntTokOf_text, strCount], cntTokOf_val _⟩

theorem pElement_atom {T : Table} (hT : T.wf = true) {x : Atom} (hx : nameable T x = true)
    {t : CntTok} (ht : t.ok = true) {tail : List Char} (htail : TailOK tail) :
    pElement T (atomText T x ++ (t.text ++ tail)) = .ok ((t.val, x), tail) := by
  obtain ⟨e, hok, hetext, hatom, hcnt, -⟩ := atom_elem hT hx ht
  have := pElement_elem T e hok [] tail AllWs.nil htail.afterTok
  rw [List.nil_append, hetext, List.append_assoc] at this
  rw [this, elemExpect, hatom, hcnt]

/-! ## the element loop followed by the composite loop -/

/-- the element loop of an implicit group followed by the remaining groups of the composite -/
def pTail (T : Table) (n m : Nat) (s : List Char) : Res (Items Cnt) :=
  match pElements T n s with
  | .error e => .error e
  | .ok (es, r) =>
    match pMore T m r with
    | .error e => .error e
    | .ok (gs, r') => .ok (es.append gs, r')

theorem pTail_stop (T : Table) (n m : Nat) (s : List Char) (h : ElemStop s) :
    pTail T n m s = pMore T m s := by
  unfold pTail
  rw [pElements_nil_stop T n s h]
  simp only
  cases pMore T m s with
  | error e => rfl
  | ok x => rfl

theorem pTail_cons (T : Table) (n m : Nat) {s r : List Char} {c : Cnt} {x : Atom}
    (he : pElement T s = .ok ((c, x), r)) :
    pTail T (n + 1) m s =
      match pTail T n m r with
      | .ok (K, rest) => .ok (.cons c (.atom x) K, rest)
      | .error e => .error e := by
  unfold pTail
  rw [pElements, he]
  simp only
  cases pElements T n r with
  | error e => rfl
  | ok p =>
    obtain ⟨es, r1⟩ := p
    simp only
    cases pMore T m r1 <;> rfl

/-! ## at an upper-case letter no reader fails, and a group is an implicit group without a count -/

def UpHead (s : List Char) : Prop := ∃ u cs, s = u :: cs ∧ isUp u = true

theorem UpHead.tailOK {s : List Char} (h : UpHead s) : TailOK s := by
  obtain ⟨u, cs, rfl, hu⟩ := h
  exact head_cons (Or.inl hu)

theorem pSymbol_not_fail (T : Table) (s : List Char) (h : UpHead s) : pSymbol T s ≠ .error .fail := by
  obtain ⟨u, cs, rfl, hu⟩ := h
  unfold pSymbol
  rw [skipWs_cons_of_not_ws (isWs_false_of_isUp hu)]
  simp only [hu, if_true]
  cases cs with
  | nil => simp only; split <;> simp
  | cons d ds =>
    simp only
    split
    · split <;> simp
    · split <;> simp

theorem pCount_not_fail (s : List Char) : pCount s ≠ .error .fail := by
  unfold pCount
  split
  · simp
  · split
    · simp
    · split
      · simp
      · rename_i e he
        unfold pNumber at he
        split at he
        · split at he
          · simp at he; rw [← he]; simp
          · simp at he
        · split at he <;> simp at he
      · simp

theorem convertElement_not_fail (e : Entry) (i : Nat) (q : Int) : convertElement e i q ≠ .error .fail := by
  rw [convertElement_eq]
  split
  · simp
  · simp

theorem pElement_not_fail (T : Table) (s : List Char) (h : UpHead s) : pElement T s ≠ .error .fail := by
  unfold pElement
  have := pSymbol_not_fail T s h
  split
  · rename_i e he
    intro hc; simp at hc; rw [hc] at he; exact this he
  · split
    · rename_i er hc
      intro h2; simp at h2; rw [h2] at hc; exact pCount_not_fail _ hc
    · split
      · rename_i er hv
        intro h2; simp at h2; rw [h2] at hv; exact convertElement_not_fail _ _ _ hv
      · simp

theorem pElements_not_fail (T : Table) (n : Nat) (s : List Char) : pElements T n s ≠ .error .fail := by
  induction n generalizing s with
  | zero => simp [pElements]
  | succ n ih =>
    rw [pElements]
    split
    · rename_i c a r he
      split
      · simp
      · rename_i e hr
        intro h2; simp at h2; rw [h2] at hr; exact ih r hr
    · simp
    · simp

theorem pElements_upper_nonnil (T : Table) (n : Nat) (s : List Char) (h : UpHead s)
    (fs : Items Cnt) (r : List Char) (he : pElements T (n + 1) s = .ok (fs, r)) : isNil fs = false := by
  rw [pElements] at he
  split at he
  · split at he
    · simp at he; rw [← he.1]; rfl
    · simp at he
  · rename_i hf
    exact absurd hf (pElement_not_fail T s h)
  · simp at he

theorem pLit_open_upper (s : List Char) (h : UpHead s) : pLit '(' s = none := by
  obtain ⟨u, cs, rfl, hu⟩ := h
  apply pLit_none
  rw [skipWs_cons_of_not_ws (isWs_false_of_isUp hu)]
  refine head_cons ?_
  rw [isUp_iff] at hu
  show u.toNat ≠ 40
  omega

/-- at an upper-case letter, a group is an implicit group without a leading count -/
theorem pGroup_upper (T : Table) (n : Nat) (s : List Char) (h : UpHead s) (fs : Items Cnt) (r : List Char)
    (he : pElements T (n + 1) s = .ok (fs, r)) : pGroup T (n + 2) s = .ok (fs, r) := by
  have hnil := pElements_upper_nonnil T n s h fs r he
  rw [pGroup, pImplicit, pCount_default s h.tailOK.noNum]
  simp only
  rw [he]
  simp [hnil, wrap, Cnt.isOne, Cnt.one]

theorem pComposite_upper (T : Table) (n : Nat) (s : List Char) (h : UpHead s) (R : Items Cnt × List Char)
    (ht : pTail T (n + 1) (n + 2) s = .ok R) : pComposite T (n + 3) s = .ok R := by
  unfold pTail at ht
  split at ht
  · simp at ht
  · rename_i es r he
    rw [pComposite, pGroup_upper T n s h es r he]
    simp only
    split at ht
    · simp at ht
    · rename_i gs r' hm
      rw [hm]; simpa using ht

/-! ## one turn of the composite loop -/

theorem elemStop_open {r : List Char} : ElemStop ('(' :: r) := elemStop_cons (by decide) (by decide)

/-- where the separator is empty, a composite is what the loop reads, if it reads anything -/
theorem pComposite_of_pMore {T : Table} {n : Nat} {s : List Char} (hs : skipSep s = s)
    {R : Items Cnt} {rest : List Char} (hm : pMore T n s = .ok (R, rest)) (hne : rest ≠ s) :
    pComposite T n s = .ok (R, rest) := by
  cases n with
  | zero => exact absurd (Prod.mk.inj (Except.ok.inj hm)).2.symm hne
  | succ n =>
    rw [pMore_succ, hs] at hm
    split at hm
    · exact absurd (Prod.mk.inj (Except.ok.inj hm)).2.symm hne
    · exact hm

theorem pMore_turn {T : Table} {n : Nat} {s r rest : List Char} {g gs : Items Cnt} (hs : skipSep s = s)
    (hG : pGroup T n s = .ok (g, r)) (hM : pMore T n r = .ok (gs, rest)) :
    pMore T (n + 1) s = .ok (g.append gs, rest) := by
  rw [pMore, hs, hG]
  simp only
  rw [hM]

/-! ## the head of a printed formula -/

theorem atomText_upHead {T : Table} (hT : T.wf = true) {x : Atom} (hx : nameable T x = true)
    (rest : List Char) : UpHead (atomText T x ++ rest) := by
  obtain ⟨e, hok, htxt, -, -, hpre⟩ := atom_elem hT hx (t := .none) rfl
  obtain ⟨u, cs, ht, -, hup⟩ := elem_text_head hok
  rw [CntTok.text, List.append_nil, ht, hpre] at htxt
  exact ⟨u, _, by rw [← htxt]; rfl, hup⟩

def OpenHead (s : List Char) : Prop := UpHead s ∨ ∃ cs, s = '(' :: cs

theorem OpenHead.tailOK {s : List Char} (h : OpenHead s) : TailOK s := by
  rcases h with h | ⟨cs, rfl⟩
  · exact h.tailOK
  · exact head_cons (Or.inr (Or.inl rfl))

theorem OpenHead.append {s : List Char} (h : OpenHead s) (t : List Char) : OpenHead (s ++ t) := by
  rcases h with ⟨u, cs, rfl, hu⟩ | ⟨cs, rfl⟩
  · exact Or.inl ⟨u, cs ++ t, rfl, hu⟩
  · exact Or.inr ⟨cs ++ t, rfl⟩

theorem OpenHead.ne_nil {s : List Char} (h : OpenHead s) : s ≠ [] := by
  rcases h with ⟨u, cs, rfl, _⟩ | ⟨cs, rfl⟩
  · exact List.cons_ne_nil _ _
  · exact List.cons_ne_nil _ _

mutual
theorem strFrag_head (T : Table) (hT : T.wf = true) (c : Q) : (f : Frag Q) → okFrag T f = true →
    OpenHead (strFrag T c f)
  | .atom x, h => by
    exact Or.inl (atomText_upHead hT h _)
  | .group g, h => by
    simp only [okFrag, Bool.and_eq_true, Bool.not_eq_true'] at h
    simp only [strFrag]
    split
    · exact strItems_head T hT g h.2 h.1
    · exact Or.inr ⟨_, rfl⟩
theorem strItems_head (T : Table) (hT : T.wf = true) : (s : Items Q) → okItems T s = true →
    qisNil s = false → OpenHead (strItems T s)
  | .nil, _, h => by simp [qisNil] at h
  | .cons c f r, h, _ => by
    simp only [okItems, Bool.and_eq_true] at h
    exact (strFrag_head T hT c f h.1.2).append _
end

theorem strItems_tailOK (T : Table) (hT : T.wf = true) (s : Items Q) (hs : okItems T s = true)
    (tail : List Char) (ht : TailOK tail) : TailOK (strItems T s ++ tail) := by
  cases hn : qisNil s with
  | true => cases s with
    | nil => simpa [strItems] using ht
    | cons c f r => simp [qisNil] at hn
  | false => exact ((strItems_head T hT s hs hn).append tail).tailOK

/-! ## the induction -/

/-- for all sufficiently large fuel both loops, started at `s`, read `R.1` and stop before `R.2` -/
def Cont (T : Table) (s : List Char) (R : Items Cnt × List Char) : Prop :=
  ∃ N, (∀ n, N ≤ n → pMore T n s = .ok R) ∧ (∀ n m, N ≤ n → N ≤ m → pTail T n m s = .ok R)

theorem Cont.more {T : Table} {s : List Char} {R : Items Cnt × List Char} (h : Cont T s R) :
    ∃ N, ∀ n, N ≤ n → pMore T n s = .ok R :=
  h.imp fun _ h => h.1

/-- where no element begins the element loop reads nothing, so both loops are the composite loop -/
theorem Cont.of_elemStop {T : Table} {s : List Char} {R : Items Cnt × List Char} (hs : ElemStop s)
    (h : ∃ N, ∀ n, N ≤ n → pMore T n s = .ok R) : Cont T s R :=
  h.imp fun _ h => ⟨h, fun n m _ hm => by rw [pTail_stop T n m s hs]; exact h m hm⟩

/-- at an upper-case letter the composite loop begins with an implicit group, so both loops are the
    element loop followed by the composite loop -/
theorem Cont.of_upHead {T : Table} {s : List Char} {R : Items Cnt × List Char} (hs : UpHead s) (N : Nat)
    (h : ∀ n m, N ≤ n → N ≤ m → pTail T (n + 1) m s = .ok R) : Cont T s R := by
  refine ⟨N + 3, fun n hn => ?_, fun n m hn hm => ?_⟩
  · obtain ⟨n', rfl⟩ : ∃ n', n = n' + 3 := ⟨n - 3, by omega⟩
    have hsep := skipSep_of_tailOK hs.tailOK
    have hC := pComposite_upper T n' s hs R (h n' (n' + 2) (by omega) (by omega))
    rw [pMore_eq_pComposite (by rw [hsep, hC]; simp), hsep, hC]
  · obtain ⟨n', rfl⟩ : ∃ n', n = n' + 1 := ⟨n - 1, by omega⟩
    exact h n' m (by omega) (by omega)

theorem cont_close (T : Table) (s : List Char) (h : EndStop s) : Cont T s (.nil, s) :=
  Cont.of_elemStop h.elemStop ⟨0, fun n _ => pMore_endStop T n s h⟩

theorem endStop_close {r : List Char} : EndStop (')' :: r) := by
  rw [EndStop, skipWs_cons_of_not_ws (by decide)]
  exact head_cons (Or.inl rfl)

/-- the items a printed fragment / formula parses back as -/
abbrev backItems (s : Items Q) : Items Cnt := norm (roundItems s)
abbrev backFrag (c : Q) (f : Frag Q) : Items Cnt := normFrag (round6 c) (roundFrag f)

theorem cont_atom {T : Table} (hT : T.wf = true) {x : Atom} (hx : nameable T x = true) {t : CntTok}
    (ht : t.ok = true) {tail : List Char} {K : Items Cnt} {rest : List Char} (htail : TailOK tail)
    (hc : Cont T tail (K, rest)) :
    Cont T (atomText T x ++ (t.text ++ tail)) (.cons t.val (.atom x) K, rest) := by
  obtain ⟨N, _, hT2⟩ := hc
  refine Cont.of_upHead (atomText_upHead hT hx _) N fun n m hn hm => ?_
  rw [pTail_cons T n m (pElement_atom hT hx ht htail), hT2 n m hn hm]

/-- a parenthesised group with its count token: the text inside is read up to the parenthesis -/
theorem cont_group {T : Table} {inner tail : List Char} {t : CntTok} (ht : t.ok = true)
    {gi K : Items Cnt} {rest : List Char} (hopen : OpenHead inner)
    (hin : Cont T (inner ++ ')' :: (t.text ++ tail)) (gi, ')' :: (t.text ++ tail)))
    (htail : TailOK tail) (hc : Cont T tail (K, rest)) :
    Cont T ('(' :: (inner ++ ')' :: (t.text ++ tail))) ((wrap t.val gi).append K, rest) := by
  have hhead := (hopen.append (')' :: (t.text ++ tail))).tailOK
  have hG : ∃ N, ∀ n, N ≤ n →
      pGroup T n ('(' :: (inner ++ ')' :: (t.text ++ tail))) = .ok (wrap t.val gi, tail) :=
    largeFuel_succ hin.more fun n h =>
      pGroup_explicit (b1 := []) (b2 := []) (b3 := []) (o := some gi) AllWs.nil AllWs.nil AllWs.nil hhead.noWs
        (cntTok_text_noWs ht fun _ => htail.noWs)
        (pComposite_of_pMore (skipSep_of_tailOK hhead) h fun e => hopen.ne_nil (List.self_eq_append_left.1 e))
        (pCount_tok t ht tail htail.noNum)
  exact Cont.of_elemStop elemStop_open (largeFuel_succ (largeFuel_and hG hc.more) fun n h =>
    pMore_turn (skipSep_of_tailOK (head_cons (Or.inr (Or.inl rfl)))) h.1 h.2)

mutual
theorem cont_frag (T : Table) (hT : T.wf = true) (c : Q) (hn : 0 < c.num) (hd : 0 < c.den) :
    (f : Frag Q) → okFrag T f = true → ∀ (tail : List Char) (K : Items Cnt) (rest : List Char),
    TailOK tail → Cont T tail (K, rest) →
    Cont T (strFrag T c f ++ tail) ((backFrag c f).append K, rest)
  | .atom x, hf, tail, K, rest, ht, hc => by
    obtain ⟨t, htok, htext, hval⟩ := strCount_tok c hn hd
    have := cont_atom hT hf htok ht hc
    simpa [strFrag, backFrag, roundFrag, normFrag, htext, hval, List.append_assoc, cons_append', nil_append'] using this
  | .group g, hf, tail, K, rest, ht, hc => by
    simp only [okFrag, Bool.and_eq_true, Bool.not_eq_true'] at hf
    by_cases h1 : c.isOne = true
    · -- a unit group is written without parentheses and read back spliced
      have := cont_items T hT g hf.2 tail K rest ht hc
      simpa [strFrag, h1, backFrag, roundFrag, normFrag, round6_of_isOne c hd h1, Cnt.isOne, Cnt.one,
        backItems] using this
    · have hin := cont_items T hT g hf.2 (')' :: ((cntTokOf (round6 c)).text ++ tail)) .nil _
        (head_cons (Or.inr (Or.inr rfl))) (cont_close T _ endStop_close)
      rw [Items.append_nil] at hin
      have := cont_group (cntTokOf_ok _ fun _ => round6_pos c hn hd) (strItems_head T hT g hf.2 hf.1)
        hin ht hc
      simpa [strFrag, h1, backFrag, roundFrag, normFrag, wrap, backItems, cntTokOf_text, cntTokOf_val,
        strCount, List.append_assoc] using this
theorem cont_items (T : Table) (hT : T.wf = true) : (s : Items Q) → okItems T s = true →
    ∀ (tail : List Char) (K : Items Cnt) (rest : List Char), TailOK tail → Cont T tail (K, rest) →
    Cont T (strItems T s ++ tail) ((backItems s).append K, rest)
  | .nil, _, tail, K, rest, _, hc => by simpa [strItems, backItems, roundItems, norm, nil_append'] using hc
  | .cons c f r, hs, tail, K, rest, ht, hc => by
    simp only [okItems, Bool.and_eq_true, decide_eq_true_eq] at hs
    have hr := cont_items T hT r hs.2 tail K rest ht hc
    have hf := cont_frag T hT c hs.1.1.1 hs.1.1.2 f hs.1.2 (strItems T r ++ tail)
      ((backItems r).append K) rest (strItems_tailOK T hT r hs.2 tail ht) hr
    simpa [strItems, backItems, roundItems, norm, Items.append_assoc, List.append_assoc] using hf
end

/-! ## where `norm` is the identity -/

/-- no group has a count equal to 1 -/
def noUnit : Items Cnt → Bool
  | .nil => true
  | .cons c (.atom _) r => noUnit r
  | .cons c (.group g) r => !c.isOne && noUnit g && noUnit r

theorem norm_id : (s : Items Cnt) → noUnit s = true → norm s = s
  | .nil, _ => by simp [norm]
  | .cons c (.atom x) r, h => by
    simp [norm, normFrag, norm_id r h, cons_append', nil_append']
  | .cons c (.group g) r, h => by
    simp only [noUnit, Bool.and_eq_true, Bool.not_eq_true'] at h
    simp [norm, normFrag, h.1.1, norm_id g h.1.2, norm_id r h.2, cons_append', nil_append']

end PtModel.Grammar
