import PtVerif.Proofs.GrammarTok
/-!
# Every accepted string is a string of the documented grammar, with that meaning (C01)

`parse T s = ok (fs, d)` ⟹ there is a derivation `D` (Model/GrammarSpec.lean; well-formed tokens,
blanks only where the implementation tolerates them) with `D.text = s` and `D.result T = some (fs, d)`.
Hence nothing outside the (whitespace-tolerant) documented language is ever accepted, and what
is accepted means what the derivation denotes.

One inversion lemma per combinator: a reader that succeeds with `(value, rest)` was given the text
of a well-formed token followed by `rest`, and the value is the token's (how much input a reader
consumes, `GrammarFuel`, is read off these).  Groups and composites by induction on the fuel; the
composite loop needs no induction of its own, a turn of it being a separator and a composite at the
same fuel (`pMore_succ`).
-/
namespace PtModel.Grammar

/-! ## loose well-formedness of derivations (tokens only, no side conditions) -/

mutual
/-- every token is well formed, blanks stand only where the implementation tolerates them, an
    implicit group has an element: `canon` without its side conditions on neighbouring parts -/
def Group.wf : Group → Bool
  | .implicit lead els => lead.ok && elemsOk els && !els.isEmpty
  | .explicit b0 b1 inner b2 b3 cnt =>
    allWs b0 && allWs b1 && allWs b2 && allWs b3 && cnt.ok && inner.wf
def Comp.wf : Comp → Bool
  | .one g => g.wf
  | .more g sep rest => g.wf && allWs sep.b1 && allWs sep.b2 && rest.wf
end

/-- the same for a whole string; blanks before the composite belong to its first group -/
def Compound.wf : Compound → Bool
  | .empty b => allWs b
  | .full lead comp dens trail =>
    lead.isEmpty && allWs trail && comp.wf &&
    (match dens with
     | some d => d.ok
     | none => true)

/-! ## tokens -/

theorem reWhole_inv {s d r : List Char} (h : reWhole s = some (d, r)) : s = d ++ r ∧ okWhole d = true := by
  cases s with
  | nil => cases h
  | cons c cs =>
    simp only [reWhole] at h
    split at h
    · rename_i hc
      obtain ⟨rfl, rfl⟩ := Prod.mk.inj (Option.some.inj h)
      exact ⟨by simp [digits_split cs], by simp only [okWhole, hc, allDig_iff.2 (digits_allDig cs), Bool.and_self]⟩
    · cases h

theorem reFract_inv {s i f r : List Char} (h : reFract s = some (i, f, r)) :
    s = i ++ '.' :: f ++ r ∧ (i = [] ∨ i = ['0'] ∨ okWhole i = true) ∧ AllDig f := by
  unfold reFract at h
  split at h
  · rename_i r0
    obtain ⟨rfl, rfl, rfl⟩ := h
    exact ⟨by simp [digits_split r0], Or.inr (Or.inl rfl), digits_allDig r0⟩
  · split at h
    · rename_i i0 r0 hw
      obtain ⟨rfl, rfl, rfl⟩ := h
      obtain ⟨hs, hok⟩ := reWhole_inv hw
      exact ⟨by rw [hs]; simp [digits_split r0], Or.inr (Or.inr hok), digits_allDig r0⟩
    · split at h
      · simp at h
        obtain ⟨rfl, rfl, rfl⟩ := h
        exact ⟨by simp [digits_split], Or.inl rfl, digits_allDig _⟩
      · simp at h

theorem pNumber_inv {s : List Char} {c : Cnt} {r : List Char} (h : pNumber s = some (.ok (c, r))) :
    ∃ t : CntTok, t.ok = true ∧ t.isNone = false ∧ s = t.text ++ r ∧ t.val = c := by
  unfold pNumber at h
  split at h
  · rename_i i f r0 hf
    obtain ⟨hs, hi, hfd⟩ := reFract_inv hf
    split at h
    · simp at h
    · rename_i hne
      obtain ⟨rfl, rfl⟩ := h
      exact ⟨.fract i f, CntTok.fract_ok_iff.2 ⟨hi, hfd, by simpa using hne⟩, rfl, by simpa [CntTok.text] using hs, rfl⟩
  · split at h
    · rename_i i r0 hw
      obtain ⟨hs, hok⟩ := reWhole_inv hw
      obtain ⟨rfl, rfl⟩ := h
      exact ⟨.whole i, hok, rfl, by simpa [CntTok.text] using hs, rfl⟩
    · simp at h

theorem pCount_inv {s : List Char} {c : Cnt} {r : List Char} (h : pCount s = .ok (c, r)) :
    ∃ t : CntTok, t.ok = true ∧ s = t.text ++ r ∧ t.val = c := by
  unfold pCount at h
  split at h
  · obtain ⟨rfl, rfl⟩ := h
    exact ⟨.none, rfl, rfl, rfl⟩
  · split at h
    · obtain ⟨rfl, rfl⟩ := h
      exact ⟨.none, rfl, rfl, rfl⟩
    · split at h
      · rename_i x hx
        simp at h; subst h
        obtain ⟨t, h1, _, h3, h4⟩ := pNumber_inv hx
        exact ⟨t, h1, h3, h4⟩
      · simp at h
      · obtain ⟨rfl, rfl⟩ := h
        exact ⟨.none, rfl, rfl, rfl⟩

theorem pSymbol_inv {T : Table} {s : List Char} {e : Entry} {r : List Char}
    (h : pSymbol T s = .ok (e, r)) :
    ∃ b sym, AllWs b ∧ symOK sym = true ∧ s = b ++ (sym ++ r) ∧ T.lookup sym = some e := by
  obtain ⟨b, hb, hs⟩ := skipWs_split s
  unfold pSymbol at h
  split at h
  · simp at h
  · rename_i c cs hsk
    rw [hsk] at hs
    split at h
    · rename_i hup
      split at h
      · rename_i d ds
        split at h
        · rename_i hlo
          split at h
          · rename_i e' hl
            obtain ⟨rfl, rfl⟩ := h
            exact ⟨b, [c, d], hb, by simp [symOK, hup, hlo], by simpa using hs, hl⟩
          · simp at h
        · split at h
          · rename_i e' hl
            obtain ⟨rfl, rfl⟩ := h
            exact ⟨b, [c], hb, by simp [symOK, hup], by simpa using hs, hl⟩
          · simp at h
      · split at h
        · rename_i e' hl
          obtain ⟨rfl, rfl⟩ := h
          exact ⟨b, [c], hb, by simp [symOK, hup], by simpa using hs, hl⟩
        · simp at h
    · simp at h

theorem pIsotope_inv (s : List Char) :
    ∃ o : Option IsoTok, isoOkOpt o = true ∧
      s = optText IsoTok.text o ++ (pIsotope s).2 ∧ (pIsotope s).1 = isoNumOpt o := by
  unfold pIsotope
  split
  · rename_i r
    split
    · rename_i d r' hw
      obtain ⟨hs1, hok⟩ := reWhole_inv hw
      obtain ⟨b1, hb1, hsk1⟩ := skipWs_split r
      split
      · rename_i r'' hsk
        obtain ⟨b2, hb2, hsk2⟩ := skipWs_split r'
        rw [hsk] at hsk2
        refine ⟨some ⟨b1, d, b2⟩, ?_, ?_, rfl⟩
        · simp [isoOkOpt, IsoTok.ok, allWs_iff.2 hb1, allWs_iff.2 hb2, hok]
        · simp only [optText, IsoTok.text]
          rw [hsk1, hs1, hsk2]
          simp
      · exact ⟨none, rfl, rfl, rfl⟩
    · exact ⟨none, rfl, rfl, rfl⟩
  · exact ⟨none, rfl, rfl, rfl⟩

theorem ionMag_inv (s : List Char) :
    ∃ mag : List Char, (mag.isEmpty || okWhole mag) = true ∧ s = mag ++ (ionMag s).2 ∧
      (ionMag s).1 = (if mag.isEmpty then 1 else natOf mag) := by
  unfold ionMag
  split
  · rename_i d r' hw
    obtain ⟨hs, hok⟩ := reWhole_inv hw
    obtain ⟨c, cs, rfl, _⟩ := okWhole_head hok
    exact ⟨c :: cs, by simp [hok], hs, by simp⟩
  · exact ⟨[], rfl, by simp, by simp⟩

theorem pIon_inv (s : List Char) :
    ∃ o : Option IonTok, ionOkOpt o = true ∧
      s = optText IonTok.text o ++ (pIon s).2 ∧ (pIon s).1 = chargeOpt o := by
  unfold pIon
  split
  · rename_i r
    obtain ⟨b1, hb1, hsk1⟩ := skipWs_split r
    obtain ⟨mag, hmok, hms, hmv⟩ := ionMag_inv (skipWs r)
    split
    · rename_i sg r3 h3
      rw [h3] at hms
      obtain ⟨b2, hb2, hsk2⟩ := skipWs_split r3
      split
      · rename_i hplus
        split
        · rename_i r4 h5
          rw [h5] at hsk2
          refine ⟨some ⟨b1, mag, false, b2⟩, ?_, ?_, ?_⟩
          · simp only [ionOkOpt, IonTok.ok, allWs_iff.2 hb1, allWs_iff.2 hb2, hmok, Bool.and_self]
          · simp only [optText, IonTok.text, Bool.false_eq_true, if_false]
            rw [hsk1, hms, hsk2, hplus]
            simp
          · simp only [chargeOpt, IonTok.charge, Bool.false_eq_true, if_false, hmv]
        · exact ⟨none, rfl, rfl, rfl⟩
      · split
        · rename_i hminus
          split
          · rename_i r4 h5
            rw [h5] at hsk2
            refine ⟨some ⟨b1, mag, true, b2⟩, ?_, ?_, ?_⟩
            · simp only [ionOkOpt, IonTok.ok, allWs_iff.2 hb1, allWs_iff.2 hb2, hmok, Bool.and_self]
            · simp only [optText, IonTok.text, if_true]
              rw [hsk1, hms, hsk2, hminus]
              simp
            · simp only [chargeOpt, IonTok.charge, if_true, hmv]
          · exact ⟨none, rfl, rfl, rfl⟩
        · exact ⟨none, rfl, rfl, rfl⟩
    · exact ⟨none, rfl, rfl, rfl⟩
  · exact ⟨none, rfl, rfl, rfl⟩

/-! ## elements and element runs -/

theorem pElement_inv {T : Table} {s : List Char} {c : Cnt} {x : Atom} {r : List Char}
    (h : pElement T s = .ok ((c, x), r)) :
    ∃ el : Elem, el.ok = true ∧ s = el.text ++ r ∧ el.atom T = some x ∧ el.cnt.val = c := by
  unfold pElement at h
  split at h
  · simp at h
  · rename_i e r1 hs
    obtain ⟨b, sym, hb, hsym, hs1, hl⟩ := pSymbol_inv hs
    obtain ⟨oi, hoi, hsi, hvi⟩ := pIsotope_inv r1
    obtain ⟨oq, hoq, hsq, hvq⟩ := pIon_inv (pIsotope r1).2
    split at h
    · simp at h
    · rename_i c' r4 hc
      obtain ⟨t, htok, hst, htv⟩ := pCount_inv hc
      split at h
      · simp at h
      · rename_i a hv
        obtain ⟨⟨rfl, rfl⟩, rfl⟩ := h
        refine ⟨⟨b, sym, oi, oq, t⟩, ?_, ?_, ?_, htv⟩
        · simp only [Elem.ok, allWs_iff.2 hb, hsym, hoi, hoq, htok, Bool.and_self]
        · simp only [Elem.text]
          rw [hs1, hsi, hsq, hst]
          simp [List.append_assoc]
        · have hat := convertElement_atom (e := ⟨b, sym, oi, oq, t⟩) hl
          rw [Elem.isoNum, Elem.charge, ← hvi, ← hvq, hv] at hat
          cases hx : Elem.atom T ⟨b, sym, oi, oq, t⟩ with
          | none => rw [hx] at hat; cases hat
          | some y => rw [hx] at hat; cases hat; rfl

theorem pElements_inv {T : Table} : ∀ (n : Nat) {s : List Char} {fs : Items Cnt} {r : List Char},
    pElements T n s = .ok (fs, r) →
    ∃ els : List Elem, elemsOk els = true ∧ s = elemsText els ++ r ∧ elemsItems T els = some fs ∧
      (isNil fs = false → els ≠ [])
  | 0, s, fs, r, h => by
    simp [pElements] at h; obtain ⟨rfl, rfl⟩ := h
    exact ⟨[], rfl, rfl, rfl, by simp [isNil]⟩
  | n + 1, s, fs, r, h => by
    rw [pElements] at h
    split at h
    · rename_i c a r1 he
      obtain ⟨el, hok, hs, hat, hcv⟩ := pElement_inv he
      split at h
      · rename_i fs' r' hr
        obtain ⟨els, hoks, hss, his, _⟩ := pElements_inv n hr
        obtain ⟨rfl, rfl⟩ := h
        refine ⟨el :: els, by simp [elemsOk, hok, hoks], ?_, ?_, by simp⟩
        · simp only [elemsText, List.append_assoc]; rw [← hss]; exact hs
        · simp only [elemsItems, hat, his, hcv]
      · simp at h
    · obtain ⟨rfl, rfl⟩ := h
      exact ⟨[], rfl, rfl, rfl, by simp [isNil]⟩
    · simp at h

theorem pImplicit_inv {T : Table} {n : Nat} {s : List Char} {fs : Items Cnt} {r : List Char}
    (h : pImplicit T n s = .ok (fs, r)) :
    ∃ g : Group, g.wf = true ∧ s = g.text ++ r ∧ g.items T = some fs := by
  unfold pImplicit at h
  split at h
  · simp at h
  · rename_i c r1 hc
    obtain ⟨t, htok, hst, htv⟩ := pCount_inv hc
    split at h
    · simp at h
    · rename_i fs' r' he
      obtain ⟨els, hoks, hss, his, hne⟩ := pElements_inv n he
      split at h
      · simp at h
      · rename_i hnil
        obtain ⟨rfl, rfl⟩ := h
        have hne' : els ≠ [] := hne (by simpa using hnil)
        refine ⟨.implicit t els, ?_, ?_, ?_⟩
        · simp only [Group.wf, htok, hoks, Bool.and_self, Bool.true_and, Bool.not_eq_true',
            List.isEmpty_eq_false_iff]
          exact hne'
        · simp only [Group.text, List.append_assoc]; rw [← hss]; exact hst
        · simp only [Group.items, his, htv]

/-! ## groups and composites -/

theorem pLit_inv {ch : Char} {s r : List Char} (h : pLit ch s = some r) :
    ∃ b, AllWs b ∧ s = b ++ ch :: r := by
  obtain ⟨b, hb, hs⟩ := skipWs_split s
  unfold pLit at h
  split at h
  · rename_i c r0 hsk
    split at h
    · rename_i hc
      simp at h; subst h
      rw [hsk, hc] at hs
      exact ⟨b, hb, hs⟩
    · simp at h
  · simp at h

theorem skipSep_inv (s : List Char) : ∃ sep : Sep, allWs sep.b1 = true ∧ allWs sep.b2 = true ∧
    s = sep.text ++ skipSep s := by
  obtain ⟨b1, hb1, hs1⟩ := skipWs_split s
  unfold skipSep
  split
  · rename_i r hsk
    obtain ⟨b2, hb2, hs2⟩ := skipWs_split r
    refine ⟨⟨b1, true, b2⟩, allWs_iff.2 hb1, allWs_iff.2 hb2, ?_⟩
    simp only [Sep.text, if_true]
    rw [hsk] at hs1
    rw [hs1]
    simp [List.append_assoc]
    rw [← hs2]
  · refine ⟨⟨b1, false, []⟩, allWs_iff.2 hb1, rfl, ?_⟩
    simp only [Sep.text, Bool.false_eq_true, if_false, List.append_nil]
    exact hs1

/-- a turn of the composite loop: nothing if no group starts after the separator, else a composite -/
theorem pMore_succ (T : Table) (n : Nat) (s : List Char) :
    pMore T (n + 1) s =
      match pGroup T n (skipSep s) with
      | .error .fail => .ok (.nil, s)
      | _ => pComposite T (n + 1) (skipSep s) := by
  rw [pMore, pComposite]
  cases pGroup T n (skipSep s) with
  | ok x => rfl
  | error e => cases e <;> rfl

/-- the loop is inverted through `pComposite` at the same fuel: it read nothing, or a separator and
    a composite -/
theorem pMore_inv {T : Table} {n : Nat}
    (hC : ∀ {s : List Char} {fs : Items Cnt} {r : List Char}, pComposite T n s = .ok (fs, r) →
      ∃ d : Comp, d.wf = true ∧ s = d.text ++ r ∧ d.items T = some fs)
    {s : List Char} {fs : Items Cnt} {r : List Char} (h : pMore T n s = .ok (fs, r)) :
    (fs = .nil ∧ r = s) ∨
    ∃ (sep : Sep) (d : Comp), allWs sep.b1 = true ∧ allWs sep.b2 = true ∧ d.wf = true ∧
      s = sep.text ++ (d.text ++ r) ∧ d.items T = some fs := by
  cases n with
  | zero => simp [pMore] at h; exact Or.inl ⟨h.1.symm, h.2.symm⟩
  | succ n =>
    rw [pMore_succ] at h
    split at h
    · simp at h; exact Or.inl ⟨h.1.symm, h.2.symm⟩
    · obtain ⟨d, hw, hs, hi⟩ := hC h
      obtain ⟨sep, hb1, hb2, hss⟩ := skipSep_inv s
      exact Or.inr ⟨sep, d, hb1, hb2, hw, by rw [← hs]; exact hss, hi⟩

theorem group_inv (T : Table) : ∀ (n : Nat),
    (∀ {s : List Char} {fs : Items Cnt} {r : List Char}, pGroup T n s = .ok (fs, r) →
      ∃ g : Group, g.wf = true ∧ s = g.text ++ r ∧ g.items T = some fs) ∧
    (∀ {s : List Char} {fs : Items Cnt} {r : List Char}, pComposite T n s = .ok (fs, r) →
      ∃ d : Comp, d.wf = true ∧ s = d.text ++ r ∧ d.items T = some fs)
  | 0 => by
    refine ⟨?_, ?_⟩
    · intro s fs r h; simp [pGroup] at h
    · intro s fs r h; simp [pComposite] at h
  | n + 1 => by
    obtain ⟨ihG, ihC⟩ := group_inv T n
    refine ⟨?_, ?_⟩
    · intro s fs r h
      rw [pGroup] at h
      split at h
      · rename_i x hx
        simp at h; subst h
        exact pImplicit_inv hx
      · simp at h
      · split at h
        · simp at h
        · rename_i r1 hl
          obtain ⟨b0, hb0, hs0⟩ := pLit_inv hl
          obtain ⟨b1, hb1, hs1⟩ := skipWs_split r1
          split at h
          · simp at h
          · rename_i fs' r2 hc
            obtain ⟨inner, hiw, his, hii⟩ := ihC hc
            split at h
            · simp at h
            · rename_i r3 hl2
              obtain ⟨b2, hb2, hs2⟩ := pLit_inv hl2
              obtain ⟨b3, hb3, hs3⟩ := skipWs_split r3
              split at h
              · simp at h
              · rename_i c r4 hcnt
                obtain ⟨t, htok, hst, htv⟩ := pCount_inv hcnt
                obtain ⟨rfl, rfl⟩ := h
                refine ⟨.explicit b0 b1 inner b2 b3 t, ?_, ?_, ?_⟩
                · simp only [Group.wf, allWs_iff.2 hb0, allWs_iff.2 hb1, allWs_iff.2 hb2, allWs_iff.2 hb3, htok, hiw,
                    Bool.and_self]
                · simp only [Group.text, List.append_assoc, List.cons_append]
                  rw [hs0, hs1, his, hs2, hs3, hst]
                · simp only [Group.items, hii, htv]
    · intro s fs r h
      rw [pComposite] at h
      split at h
      · simp at h
      · rename_i g r1 hg
        obtain ⟨g', hgw, hgs, hgi⟩ := ihG hg
        split at h
        · simp at h
        · rename_i gs r2 hm
          obtain ⟨rfl, rfl⟩ := h
          rcases pMore_inv ihC hm with ⟨rfl, rfl⟩ | ⟨sep, d, hb1, hb2, hw, hs, hi⟩
          · exact ⟨.one g', by simpa [Comp.wf] using hgw, by simpa [Comp.text] using hgs,
              by simp [Comp.items, hgi, Items.append_nil]⟩
          · refine ⟨.more g' sep d, by simp [Comp.wf, hgw, hb1, hb2, hw], ?_, by simp [Comp.items, hgi, hi]⟩
            simp only [Comp.text, List.append_assoc]
            rw [hgs, hs]

theorem pGroup_inv {T : Table} {n : Nat} {s : List Char} {fs : Items Cnt} {r : List Char}
    (h : pGroup T n s = .ok (fs, r)) :
    ∃ g : Group, g.wf = true ∧ s = g.text ++ r ∧ g.items T = some fs :=
  (group_inv T n).1 h

theorem pComposite_inv {T : Table} {n : Nat} {s : List Char} {fs : Items Cnt} {r : List Char}
    (h : pComposite T n s = .ok (fs, r)) :
    ∃ d : Comp, d.wf = true ∧ s = d.text ++ r ∧ d.items T = some fs :=
  (group_inv T n).2 h

/-! ## the density tag and the whole string -/

theorem pDensity_inv {s : List Char} {o : Option Dens} {r : List Char} (h : pDensity s = .ok (o, r)) :
    (o = none ∧ r = s) ∨
    ∃ d : DensTok, d.ok = true ∧ s = d.text ++ r ∧ o = some d.val := by
  obtain ⟨b0, hb0, hs0⟩ := skipWs_split s
  unfold pDensity at h
  split at h
  · rename_i r0 hsk
    rw [hsk] at hs0
    split at h
    · simp at h; exact Or.inl ⟨h.1.symm, h.2.symm⟩
    · rename_i c cs
      split at h
      · simp at h; exact Or.inl ⟨h.1.symm, h.2.symm⟩
      · split at h
        · simp at h; exact Or.inl ⟨h.1.symm, h.2.symm⟩
        · simp at h
        · rename_i cnt r' hnum
          obtain ⟨t, htok, htn, hst, htv⟩ := pNumber_inv hnum
          obtain ⟨b1, hb1, hs1⟩ := skipWs_split r'
          -- the three outcomes differ in the tag and the blanks before it
          have tok : ∀ b tag, AllWs b →
              r' = (DensTok.mk b0 t b tag).tagText ++ r → o = some (DensTok.mk b0 t b tag).val →
              ∃ d : DensTok, d.ok = true ∧ s = d.text ++ r ∧ o = some d.val := by
            intro b tag hb hr ho
            refine ⟨⟨b0, t, b, tag⟩, ?_, ?_, ho⟩
            · simp [DensTok.ok, allWs_iff.2 hb0, allWs_iff.2 hb, htok, htn]
            · simp only [DensTok.text, List.append_assoc, List.cons_append]
              rw [hs0, hst, hr]
          right
          split at h
          · rename_i r'' hsk2
            obtain ⟨rfl, rfl⟩ := h
            rw [hsk2] at hs1
            exact tok b1 (some true) hb1 (by simpa [DensTok.tagText] using hs1) (by rw [DensTok.val, htv])
          · rename_i r'' hsk2
            obtain ⟨rfl, rfl⟩ := h
            rw [hsk2] at hs1
            exact tok b1 (some false) hb1 (by simpa [DensTok.tagText] using hs1) (by rw [DensTok.val, htv])
          · obtain ⟨rfl, rfl⟩ := h
            exact tok [] none AllWs.nil rfl (by rw [DensTok.val, htv])
  · simp at h; exact Or.inl ⟨h.1.symm, h.2.symm⟩

theorem parse_sound (T : Table) (s : List Char) (fs : Items Cnt) (d : Option Dens)
    (h : parse T s = .ok (fs, d)) :
    ∃ D : Compound, D.wf = true ∧ D.text = s ∧ D.result T = some (fs, d) := by
  unfold parse at h
  split at h
  · rename_i fs' r hc
    obtain ⟨comp, hcw, hcs, hci⟩ := pComposite_inv hc
    split at h
    · rename_i o r' hd
      split at h
      · rename_i hemp
        obtain ⟨rfl, rfl⟩ := h
        have htrail := allWs_of_skipWs_isEmpty hemp
        rcases pDensity_inv hd with ⟨rfl, rfl⟩ | ⟨dt, hdok, hds, rfl⟩
        · exact ⟨.full [] comp none r', by simp [Compound.wf, allWs_iff.2 htrail, hcw],
            by simp [Compound.text, optText, hcs], by simp [Compound.result, hci]⟩
        · exact ⟨.full [] comp (some dt) r', by simp [Compound.wf, allWs_iff.2 htrail, hcw, hdok],
            by simp [Compound.text, optText, hcs, hds], by simp [Compound.result, hci]⟩
      · simp at h
    · simp at h
  · split at h
    · rename_i hemp
      obtain ⟨rfl, rfl⟩ := h
      exact ⟨.empty s, by simpa [Compound.wf] using allWs_iff.2 (allWs_of_skipWs_isEmpty hemp), rfl, rfl⟩
    · simp at h
  · simp at h

end PtModel.Grammar
