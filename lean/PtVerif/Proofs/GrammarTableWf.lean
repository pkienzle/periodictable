import PtVerif.Proofs.TableCheck
import PtVerif.Model.GrammarTable
/-!
# The regenerated table serves every entry under its own symbol

The hypothesis `T.wf` of C13's theorems (C01's hold for every table and restate this as a data
fact), for the public table as the translator reads it from core.py / mass.py on this run:
evaluated once, here.
-/
namespace PtModel.Grammar
open PtCheck

theorem Table.wf_of_nodup (T : Table) (h : (T.map (·.sym)).Nodup) : T.wf = true :=
  List.all_eq_true.mpr fun _ he => decide_eq_true (find?_key_of_mem Entry.sym h he)

/-- the symbols, read as numbers in base 256, are distinct -/
theorem genTable_wf : genTable.wf = true :=
  Table.wf_of_nodup _ <| nodup_of_map (·.foldl (fun n c => n * 256 + c.toNat) 0) <|
    nodup_of_distinct (by decide +kernel)

end PtModel.Grammar
