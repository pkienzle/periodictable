import PtVerif.Model.GrammarSpec
import PtVerif.Proofs.GrammarLex
/-!
# Tokens of a derivation, read by the parser (forward direction)

A well-formed token followed by a text that does not continue it is read back as its value, and an
absent optional token is read as its default: counts, symbols, isotope and ion tags, then one
`element` of a derivation; literals, separators and the density tag.
-/
namespace PtModel.Grammar

/-! ## Bool predicates of the specification as propositions -/

theorem allDig_iff {ds : List Char} : ds.all isDig = true ↔ AllDig ds := List.all_eq_true

theorem allWs_iff {b : List Char} : allWs b = true ↔ AllWs b := List.all_eq_true

theorem okWhole_head {ds : List Char} (h : okWhole ds = true) :
    ∃ d r, ds = d :: r ∧ isDig d = true ∧ d.toNat ≠ 48 ∧ AllDig r := by
  cases ds with
  | nil => simp [okWhole] at h
  | cons d r =>
    simp only [okWhole, Bool.and_eq_true, bne_iff_ne, ne_eq] at h
    exact ⟨d, r, rfl, h.1.1, h.1.2, allDig_iff.1 h.2⟩

/-- `(0|[1-9][0-9]*|)([.][0-9]*)` but not a lone `.` -/
theorem CntTok.fract_ok_iff {i f : List Char} : (CntTok.fract i f).ok = true ↔
    (i = [] ∨ i = ['0'] ∨ okWhole i = true) ∧ AllDig f ∧ ¬ (i = [] ∧ f = []) := by
  simp only [CntTok.ok, Bool.and_eq_true, Bool.or_eq_true, Bool.not_eq_true', Bool.and_eq_false_iff,
    List.isEmpty_iff, List.isEmpty_eq_false_iff, beq_iff_eq, List.all_eq_true, or_assoc, and_assoc,
    Classical.not_and_iff_not_or_not, ne_eq, AllDig]

theorem CntTok.eq_none {t : CntTok} (h : t.isNone = true) : t = .none := by
  cases t with
  | none => rfl
  | whole ds => cases h
  | fract i f => cases h

/-! ## what follows a token -/

/-- the text following a count: neither a digit nor `.` -/
def NoNumHead (r : List Char) : Prop := ∀ c, r.head? = some c → isDig c = false ∧ c.toNat ≠ 46

theorem NoNumHead.noDig {r : List Char} (h : NoNumHead r) : NoDigHead r := fun c hc => (h c hc).1

/-- the text after a symbol does not extend it -/
def NoLoHead (r : List Char) : Prop := ∀ c, r.head? = some c → isLo c = false

/-- the text after a token: not a digit, `.`, a lower-case letter, `[` or `{` -/
def AfterTok (X : List Char) : Prop :=
  ∀ c, X.head? = some c →
    isDig c = false ∧ c.toNat ≠ 46 ∧ isLo c = false ∧ c.toNat ≠ 91 ∧ c.toNat ≠ 123

theorem AfterTok.noNum {X : List Char} (h : AfterTok X) : NoNumHead X :=
  fun c hc => ⟨(h c hc).1, (h c hc).2.1⟩
theorem AfterTok.noLo {X : List Char} (h : AfterTok X) : NoLoHead X := fun c hc => (h c hc).2.2.1

theorem afterTok_of_code {c : Char} {cs : List Char}
    (h : (c.toNat < 46 ∨ c.toNat = 47 ∨ (57 < c.toNat ∧ c.toNat < 91) ∨ (91 < c.toNat ∧ c.toNat < 97))) :
    AfterTok (c :: cs) := by
  apply head_cons
  rw [isDig_false_iff, isLo_false_iff]; omega

theorem afterTok_ws {c : Char} {cs : List Char} (h : isWs c = true) : AfterTok (c :: cs) := by
  apply afterTok_of_code; rw [isWs_iff] at h; omega

theorem afterTok_up {c : Char} {cs : List Char} (h : isUp c = true) : AfterTok (c :: cs) := by
  apply afterTok_of_code; rw [isUp_iff] at h; omega

theorem afterTok_ws_append {b Z : List Char} (hb : AllWs b) (hz : AfterTok Z) : AfterTok (b ++ Z) :=
  head_ws_append (fun w hw => afterTok_ws (cs := []) hw w rfl) hb hz

theorem afterTok_allWs {b : List Char} (hb : AllWs b) : AfterTok b := by
  simpa using afterTok_ws_append hb head_nil

theorem noNumHead_ws_append {b Z : List Char} (hb : AllWs b) (hz : NoNumHead Z) : NoNumHead (b ++ Z) :=
  head_ws_append (fun w hw => (afterTok_ws (cs := []) hw).noNum w rfl) hb hz

/-! ## numbers -/

theorem reWhole_ok (ds : List Char) (h : okWhole ds = true) (rest : List Char) (hr : NoDigHead rest) :
    reWhole (ds ++ rest) = some (ds, rest) := by
  obtain ⟨d, r, rfl, h1, h2, h3⟩ := okWhole_head h
  simp [reWhole, h1, h2, digits_append h3 hr]

theorem reWhole_none_of_head (s : List Char) (h : ∀ c, s.head? = some c → isDig c = false ∨ c.toNat = 48) :
    reWhole s = none := by
  cases s with
  | nil => rfl
  | cons c cs =>
    rcases h c rfl with h | h
    · simp [reWhole, h]
    · simp [reWhole, h]

theorem pNumber_wholeTok (ds : List Char) (h : okWhole ds = true) (rest : List Char) (hr : NoNumHead rest) :
    pNumber (ds ++ rest) = some (.ok (⟨natOf ds, 0⟩, rest)) := by
  have hw := reWhole_ok ds h rest hr.noDig
  obtain ⟨d, r, rfl, h1, h2, h3⟩ := okWhole_head h
  have hd46 : d.toNat ≠ 46 := by rw [isDig_iff] at h1; omega
  have hne0 : d ≠ '0' := ne_of_toNat_ne h2
  have hnedot : d ≠ '.' := ne_of_toNat_ne hd46
  have hfr : reFract (d :: r ++ rest) = none := by
    unfold reFract
    rw [hw]
    cases rest with
    | nil => simp [hne0, hnedot]
    | cons c cs =>
      have hc : c ≠ '.' := ne_of_toNat_ne (hr c rfl).2
      simp [hne0, hnedot, hc]
  unfold pNumber
  rw [hfr, hw]

theorem pNumber_fractTok (i f : List Char) (hi : i = [] ∨ i = ['0'] ∨ okWhole i = true) (hf : AllDig f)
    (hne : ¬ (i = [] ∧ f = [])) (rest : List Char) (hr : NoDigHead rest) :
    pNumber (i ++ '.' :: f ++ rest) = some (.ok (⟨natOf (i ++ f), f.length⟩, rest)) := by
  have hdig := digits_append hf hr
  have hfr : reFract (i ++ '.' :: f ++ rest) = some (i, f, rest) := by
    rcases hi with rfl | rfl | hi
    · simp [reFract, reWhole, isDig, hdig]
    · simp [reFract, hdig]
    · have hw := reWhole_ok i hi ('.' :: f ++ rest) (head_cons (by decide))
      obtain ⟨d, r, rfl, h1, h2, h3⟩ := okWhole_head hi
      have hne0 : d ≠ '0' := ne_of_toNat_ne h2
      unfold reFract
      simp only [List.append_assoc, List.cons_append] at hw ⊢
      rw [hw]
      simp [hne0, hdig]
  unfold pNumber
  rw [hfr]
  have : (i.isEmpty && f.isEmpty) = false := by simpa using hne
  simp [this]

theorem cntTok_head {t : CntTok} (h : t.ok = true) (hn : t.isNone = false) :
    ∃ c cs, t.text = c :: cs ∧ (isDig c = true ∨ c.toNat = 46) := by
  cases t with
  | none => cases hn
  | whole ds =>
    obtain ⟨d, r, rfl, h1, _, _⟩ := okWhole_head h
    exact ⟨d, r, rfl, Or.inl h1⟩
  | fract i f =>
    rcases (CntTok.fract_ok_iff.1 h).1 with rfl | rfl | hi
    · exact ⟨'.', f, rfl, Or.inr rfl⟩
    · exact ⟨'0', '.' :: f, rfl, Or.inl (by decide)⟩
    · obtain ⟨d, r, rfl, h1, _, _⟩ := okWhole_head hi
      exact ⟨d, r ++ '.' :: f, rfl, Or.inl h1⟩

theorem isWs_false_of_numHead {c : Char} (h : isDig c = true ∨ c.toNat = 46) : isWs c = false := by
  rcases h with h | h
  · exact isWs_false_of_isDig h
  · rw [isWs_false_iff]; omega

theorem cntTok_text_head {t : CntTok} (h : t.ok = true) :
    ∀ c, t.text.head? = some c → (isDig c = true ∨ c.toNat = 46) := by
  cases hn : t.isNone with
  | true => rw [CntTok.eq_none hn]; exact head_nil
  | false =>
    obtain ⟨d, ds, hd, hdd⟩ := cntTok_head h hn
    rw [hd]; exact head_cons hdd

theorem cntTok_text_noWs {t : CntTok} (h : t.ok = true) {X : List Char}
    (hX : t.isNone = true → NoWsHead X) : NoWsHead (t.text ++ X) := by
  cases hn : t.isNone with
  | true => rw [CntTok.eq_none hn]; exact hX hn
  | false =>
    obtain ⟨c, cs, hct, hcd⟩ := cntTok_head h hn
    rw [hct]
    exact head_cons (isWs_false_of_numHead hcd)

theorem pNumber_tok (t : CntTok) (h : t.ok = true) (hn : t.isNone = false) (rest : List Char)
    (hr : NoNumHead rest) : pNumber (t.text ++ rest) = some (.ok (t.val, rest)) := by
  cases t with
  | none => cases hn
  | whole ds => exact pNumber_wholeTok ds h rest hr
  | fract i f =>
    obtain ⟨hi, hf, hne⟩ := CntTok.fract_ok_iff.1 h
    exact pNumber_fractTok i f hi hf hne rest hr.noDig

theorem pCount_default (rest : List Char) (hr : NoNumHead rest) : pCount rest = .ok (Cnt.one, rest) := by
  cases rest with
  | nil => rfl
  | cons c cs =>
    have h := hr c rfl
    by_cases hw : isWs c = true
    · simp [pCount, hw]
    · have h0 : c ≠ '0' := by
        apply ne_of_toNat_ne
        have := (isDig_false_iff c).1 h.1
        show c.toNat ≠ 48
        omega
      have hdot : c ≠ '.' := ne_of_toNat_ne h.2
      have hre : reWhole (c :: cs) = none := reWhole_none_of_head _ (head_cons (Or.inl h.1))
      have : pNumber (c :: cs) = none := by
        unfold pNumber reFract
        rw [hre]
        simp [h0, hdot]
      simp [pCount, hw, this]

theorem pCount_tok (t : CntTok) (h : t.ok = true) (rest : List Char) (hr : NoNumHead rest) :
    pCount (t.text ++ rest) = .ok (t.val, rest) := by
  cases hn : t.isNone with
  | true => rw [CntTok.eq_none hn]; exact pCount_default rest hr
  | false =>
    -- the text begins with a digit or `.`, so `~White()` lets the number regexes run
    have hp := pNumber_tok t h hn rest hr
    obtain ⟨c, cs, hc, hcd⟩ := cntTok_head h hn
    rw [hc] at hp ⊢
    simp only [List.cons_append] at hp ⊢
    simp only [pCount, isWs_false_of_numHead hcd, hp]
    rfl

/-! ## symbols -/

theorem pSymbol_tok (T : Table) (sym : List Char) (hs : symOK sym = true) (b rest : List Char)
    (hb : AllWs b) (hr : NoLoHead rest) :
    pSymbol T (b ++ (sym ++ rest)) =
      match T.lookup sym with
      | some e => .ok (e, rest)
      | none => .error .abort := by
  unfold pSymbol
  match sym, hs with
  | [u], hs =>
    simp only [symOK] at hs
    rw [List.singleton_append, skipWs_allWs_noWs hb (head_cons (isWs_false_of_isUp hs))]
    cases rest with
    | nil => simp only [hs, if_true]; cases T.lookup [u] <;> rfl
    | cons c cs => simp only [hs, hr c rfl, if_true]; cases T.lookup [u] <;> rfl
  | [u, l], hs =>
    simp only [symOK, Bool.and_eq_true] at hs
    rw [List.cons_append, List.singleton_append,
      skipWs_allWs_noWs hb (head_cons (isWs_false_of_isUp hs.1))]
    simp only [hs.1, hs.2, if_true]; cases T.lookup [u, l] <;> rfl

/-! ## tags -/

theorem pIsotope_none (rest : List Char) (h : ∀ c, rest.head? = some c → c.toNat ≠ 91) :
    pIsotope rest = (0, rest) := by
  cases rest with
  | nil => rfl
  | cons c cs =>
    have : c ≠ '[' := ne_of_toNat_ne (h c rfl)
    simp [pIsotope, this]

theorem pIsotope_tok (t : IsoTok) (h : t.ok = true) (rest : List Char) :
    pIsotope (t.text ++ rest) = (natOf t.ds, rest) := by
  simp only [IsoTok.ok, Bool.and_eq_true] at h
  have h1 := allWs_iff.1 h.1.1
  have h2 := allWs_iff.1 h.2
  obtain ⟨d, r, hds, hd1, _, _⟩ := okWhole_head h.1.2
  have hs1 : skipWs (t.b1 ++ (t.ds ++ (t.b2 ++ ']' :: rest))) = t.ds ++ (t.b2 ++ ']' :: rest) := by
    apply skipWs_allWs_noWs h1
    rw [hds]; exact head_cons (isWs_false_of_isDig hd1)
  have hnd : NoDigHead (t.b2 ++ ']' :: rest) :=
    (noNumHead_ws_append h2 (head_cons ⟨by decide, by decide⟩)).noDig
  have hw := reWhole_ok t.ds h.1.2 _ hnd
  have hs2 : skipWs (t.b2 ++ ']' :: rest) = ']' :: rest :=
    skipWs_allWs_noWs h2 (head_cons (by decide))
  simp only [IsoTok.text, List.cons_append, List.append_assoc, List.nil_append, pIsotope, hs1, hw, hs2]

theorem pIsotope_opt (o : Option IsoTok) (ho : isoOkOpt o = true) (rest : List Char)
    (h : ∀ c, rest.head? = some c → c.toNat ≠ 91) :
    pIsotope (optText IsoTok.text o ++ rest) = (isoNumOpt o, rest) := by
  cases o with
  | none => exact pIsotope_none rest h
  | some t => exact pIsotope_tok t ho rest

theorem pIon_none (rest : List Char) (h : ∀ c, rest.head? = some c → c.toNat ≠ 123) :
    pIon rest = (0, rest) := by
  cases rest with
  | nil => rfl
  | cons c cs =>
    have : c ≠ '{' := ne_of_toNat_ne (h c rfl)
    simp [pIon, this]

theorem pIon_tok (t : IonTok) (h : t.ok = true) (rest : List Char) :
    pIon (t.text ++ rest) = (t.charge, rest) := by
  unfold IonTok.charge
  simp only [IonTok.ok, Bool.and_eq_true, Bool.or_eq_true, List.isEmpty_iff] at h
  have h1 := allWs_iff.1 h.1.1
  have h2 := allWs_iff.1 h.2
  have hs2 : skipWs (t.b2 ++ '}' :: rest) = '}' :: rest :=
    skipWs_allWs_noWs h2 (head_cons (by decide))
  have hsgd : isDig (if t.neg then '-' else '+') = false := by cases t.neg <;> decide
  have hsgw : isWs (if t.neg then '-' else '+') = false := by cases t.neg <;> decide
  rcases h.1.2 with hm | hm
  · have hs1 : skipWs (t.b1 ++ (t.mag ++ (if t.neg then '-' else '+') :: (t.b2 ++ '}' :: rest))) =
        (if t.neg then '-' else '+') :: (t.b2 ++ '}' :: rest) := by
      rw [hm]
      exact skipWs_allWs_noWs h1 (head_cons hsgw)
    have hw : reWhole ((if t.neg then '-' else '+') :: (t.b2 ++ '}' :: rest)) = none :=
      reWhole_none_of_head _ (head_cons (Or.inl hsgd))
    simp only [IonTok.text, List.cons_append, List.append_assoc, List.nil_append, pIon, ionMag, hs1, hw]
    cases t.neg <;> simp [hs2, hm]
  · obtain ⟨d, r, hds, hd1, _, _⟩ := okWhole_head hm
    have hne : t.mag ≠ [] := by rw [hds]; simp
    have hs1 : skipWs (t.b1 ++ (t.mag ++ (if t.neg then '-' else '+') :: (t.b2 ++ '}' :: rest))) =
        t.mag ++ (if t.neg then '-' else '+') :: (t.b2 ++ '}' :: rest) := by
      apply skipWs_allWs_noWs h1
      rw [hds]; exact head_cons (isWs_false_of_isDig hd1)
    have hw := reWhole_ok t.mag hm _ (head_cons (cs := t.b2 ++ '}' :: rest) hsgd)
    simp only [IonTok.text, List.cons_append, List.append_assoc, List.nil_append, pIon, ionMag, hs1, hw]
    cases t.neg <;> simp [hs2, hne]

theorem pIon_opt (o : Option IonTok) (ho : ionOkOpt o = true) (rest : List Char)
    (h : ∀ c, rest.head? = some c → c.toNat ≠ 123) :
    pIon (optText IonTok.text o ++ rest) = (chargeOpt o, rest) := by
  cases o with
  | none => exact pIon_none rest h
  | some t => exact pIon_tok t ho rest

/-! ## one element of a derivation -/

theorem elem_text_head {e : Elem} (he : e.ok = true) :
    ∃ u cs, e.text = e.pre ++ u :: cs ∧ AllWs e.pre ∧ isUp u = true := by
  simp only [Elem.ok, Bool.and_eq_true] at he
  obtain ⟨u, cs, hs, hu⟩ := symOK_head he.1.1.1.2
  exact ⟨u, _, by rw [Elem.text, hs]; rfl, allWs_iff.1 he.1.1.1.1, hu⟩

theorem convertElement_eq (ent : Entry) (i : Nat) (q : Int) :
    convertElement ent i q =
      if (i = 0 ∨ (ent.alias = 0 ∧ i ∈ ent.isos)) ∧ (q = 0 ∨ q ∈ ent.ions)
      then .ok ⟨ent.z, if i = 0 then ent.alias else i, q⟩ else .error .abort := by
  unfold convertElement
  -- the charge test `q ≠ 0 ∧ q ∉ ions` is the negation of `q = 0 ∨ q ∈ ions`
  simp only [ne_eq, ← not_or, ite_not]
  by_cases hi : i = 0
  · simp [hi]
  · by_cases hal : ent.alias = 0 <;> by_cases hm : i ∈ ent.isos <;> simp [hi, hal, hm]

theorem convertElement_atom {T : Table} {e : Elem} {ent : Entry} (hl : T.lookup e.sym = some ent) :
    convertElement ent e.isoNum e.charge =
      match e.atom T with
      | some x => .ok x
      | none => .error .abort := by
  rw [convertElement_eq, Elem.atom, hl]
  split
  · rename_i h; simp only [if_pos h]
  · rename_i h; simp only [if_neg h]

theorem optText_head_iso (o : Option IsoTok) : ∀ c, (optText IsoTok.text o).head? = some c → c.toNat = 91 := by
  cases o with
  | none => exact head_nil
  | some t => exact head_cons (P := fun c => c.toNat = 91) rfl

theorem optText_head_ion (o : Option IonTok) : ∀ c, (optText IonTok.text o).head? = some c → c.toNat = 123 := by
  cases o with
  | none => exact head_nil
  | some t => exact head_cons (P := fun c => c.toNat = 123) rfl

/-- the expected reading of one element: its count and atom, or the parse action's exception -/
def elemExpect (T : Table) (e : Elem) (X : List Char) : Res (Cnt × Atom) :=
  match e.atom T with
  | some x => .ok ((e.cnt.val, x), X)
  | none => .error .abort

theorem pElement_elem (T : Table) (e : Elem) (he : e.ok = true) (b X : List Char) (hb : AllWs b)
    (hX : AfterTok X) : pElement T (b ++ (e.text ++ X)) = elemExpect T e X := by
  simp only [Elem.ok, Bool.and_eq_true] at he
  obtain ⟨⟨⟨⟨hpre, hsym⟩, hiso⟩, hion⟩, hcnt⟩ := he
  -- the text after the symbol `R1`, after the isotope tag `R2`, after the ion tag `R3`: what has not
  -- been read yet begins with `[`, `{`, a digit, `.` or as `X` does, so no reader takes too much
  let R3 := e.cnt.text ++ X
  let R2 := optText IonTok.text e.ion ++ R3
  let R1 := optText IsoTok.text e.iso ++ R2
  have hR3 : ∀ c, R3.head? = some c → isLo c = false ∧ c.toNat ≠ 91 ∧ c.toNat ≠ 123 := by
    apply head_append
    · intro c hc
      rcases cntTok_text_head hcnt c hc with h | h
      · rw [isDig_iff] at h; rw [isLo_false_iff]; omega
      · rw [isLo_false_iff]; omega
    · intro c hc; exact (hX c hc).2.2
  have hR2 : ∀ c, R2.head? = some c → isLo c = false ∧ c.toNat ≠ 91 := by
    apply head_append
    · intro c hc
      have := optText_head_ion e.ion c hc
      rw [isLo_false_iff]; omega
    · intro c hc; exact ⟨(hR3 c hc).1, (hR3 c hc).2.1⟩
  have hR1 : NoLoHead R1 := by
    apply head_append
    · intro c hc
      have := optText_head_iso e.iso c hc
      rw [isLo_false_iff]; omega
    · intro c hc; exact (hR2 c hc).1
  have hS := pSymbol_tok T e.sym hsym (b ++ e.pre) R1 (hb.append (allWs_iff.1 hpre)) hR1
  have hI : pIsotope R1 = (e.isoNum, R2) := pIsotope_opt e.iso hiso R2 fun c hc => (hR2 c hc).2
  have hQ : pIon R2 = (e.charge, R3) := pIon_opt e.ion hion R3 fun c hc => (hR3 c hc).2.2
  have hC : pCount R3 = .ok (e.cnt.val, X) := pCount_tok e.cnt hcnt X hX.noNum
  rw [show b ++ (e.text ++ X) = (b ++ e.pre) ++ (e.sym ++ R1) by simp [Elem.text, R1, R2, R3]]
  rw [pElement, hS, elemExpect]
  cases hl : T.lookup e.sym with
  | none => simp only [Elem.atom, hl]
  | some ent =>
    simp only [hI, hQ, hC, convertElement_atom hl]
    cases e.atom T with
    | none => rfl
    | some x => rfl

/-! ## literals and separators -/

theorem pLit_blanks (ch : Char) (hch : isWs ch = false) (b R : List Char) (hb : AllWs b) :
    pLit ch (b ++ ch :: R) = some R := by
  unfold pLit
  rw [skipWs_allWs_noWs hb (head_cons hch)]
  simp

theorem pLit_none {ch : Char} {s : List Char} (h : ∀ c, (skipWs s).head? = some c → c.toNat ≠ ch.toNat) :
    pLit ch s = none := by
  unfold pLit
  cases hs : skipWs s with
  | nil => rfl
  | cons c cs =>
    have : c ≠ ch := ne_of_toNat_ne (h c (by rw [hs]; rfl))
    simp [this]

theorem skipSep_of_noPlus {s : List Char} (h : ∀ c, (skipWs s).head? = some c → c.toNat ≠ 43) :
    skipSep s = skipWs s := by
  unfold skipSep
  cases hs : skipWs s with
  | nil => rfl
  | cons c cs =>
    have : c ≠ '+' := ne_of_toNat_ne (h c (by rw [hs]; rfl))
    simp [this]

theorem skipSep_sep (s : Sep) (hs : s.ok = true) (Z : List Char) (hz : NoWsHead Z)
    (hp : ∀ c, Z.head? = some c → c.toNat ≠ 43) : skipSep (s.text ++ Z) = Z := by
  simp only [Sep.ok, Bool.and_eq_true, Bool.or_eq_true, List.isEmpty_iff] at hs
  obtain ⟨⟨hb1, hb2⟩, hb3⟩ := hs
  have hb1' := allWs_iff.1 hb1
  have hb2' := allWs_iff.1 hb2
  unfold Sep.text
  cases hpl : s.plus with
  | true =>
    unfold skipSep
    simp only [if_true, List.append_assoc, List.cons_append]
    rw [skipWs_allWs_noWs hb1' (head_cons (by decide))]
    exact skipWs_allWs_noWs hb2' hz
  | false =>
    have hb2e : s.b2 = [] := by
      rcases hb3 with h | h
      · rw [hpl] at h; simp at h
      · exact h
    have hsk : skipWs (s.b1 ++ Z) = Z := skipWs_allWs_noWs hb1' hz
    simp only [hb2e, List.append_nil, Bool.false_eq_true, if_false]
    rw [skipSep_of_noPlus (by rw [hsk]; exact hp), hsk]

/-! ## the density tag -/

theorem pDensity_none (trail : List Char) (ht : AllWs trail) : pDensity trail = .ok (none, trail) := by
  unfold pDensity
  rw [skipWs_of_allWs ht]

theorem pDensity_tok (d : DensTok) (hd : d.ok = true) (trail : List Char) (ht : AllWs trail) :
    pDensity (d.text ++ trail) = .ok (some d.val, trail) := by
  simp only [DensTok.ok, Bool.and_eq_true, Bool.not_eq_true'] at hd
  obtain ⟨⟨⟨hb0, hb1⟩, hc⟩, hn⟩ := hd
  have hb1' := allWs_iff.1 hb1
  have hR : NoNumHead (d.tagText ++ trail) := by
    unfold DensTok.tagText
    split
    · simpa using noNumHead_ws_append hb1' (head_cons (c := 'n') (cs := trail) ⟨by decide, by decide⟩)
    · simpa using noNumHead_ws_append hb1' (head_cons (c := 'i') (cs := trail) ⟨by decide, by decide⟩)
    · simpa using (afterTok_allWs ht).noNum
  have hnum := pNumber_tok d.cnt hc hn _ hR
  have hw := cntTok_text_noWs hc (X := d.tagText ++ trail) (by simp [hn])
  obtain ⟨c, cs, hct, _⟩ := cntTok_head hc hn
  rw [hct] at hnum hw
  rw [show d.text ++ trail = d.b0 ++ '@' :: (c :: cs ++ (d.tagText ++ trail)) by
    simp [DensTok.text, hct, List.append_assoc]]
  unfold pDensity
  rw [skipWs_allWs_noWs (allWs_iff.1 hb0) (head_cons (by decide))]
  simp only [List.cons_append] at hnum hw ⊢
  simp only [hw c rfl, Bool.false_eq_true, if_false, hnum]
  unfold DensTok.tagText DensTok.val
  rcases d.tag with _ | _ | _
  · simp only [List.nil_append, skipWs_of_allWs ht]
  · simp only [List.append_assoc, List.singleton_append,
      skipWs_allWs_noWs hb1' (head_cons (by decide : isWs 'i' = false))]
  · simp only [List.append_assoc, List.singleton_append,
      skipWs_allWs_noWs hb1' (head_cons (by decide : isWs 'n' = false))]

end PtModel.Grammar
