import PtVerif.Proofs.GrammarTok
import PtVerif.Proofs.GrammarFuel
/-!
# Every canonical derivation of the documented grammar parses to what it denotes (C01)

`parse T D.text = D.result T` for every table `T` and every canonical derivation `D`
(any nesting depth, blanks, separators, leading counts, density tag): the structure the
derivation denotes if every element is defined in `T`, and the parse action's exception (never a
formula) if one is not.

Each greedy loop stops where it should because of what the text that follows begins with
(`ElemStop`, `EndStop`, `AfterTok`; `GroupFollow` / `CompFollow` collect what a group / a composite
needs of it, `CompHead` what the readers before a composite need of the composite's own text, and
`canon` is what makes them hold between the parts of a derivation).  A turn of
the composite loop is a separator and a composite (`pMore_succ`), so the structural induction is
over `pGroup` and `pComposite` only.  It describes them for all sufficiently large fuel, and
`pComposite_fuel` turns that into the fuel `parse` runs with.  Blanks before the first group are
no part of the induction: `pComposite` skips them (`pComposite_ws`).
-/
namespace PtModel.Grammar

/-- the items of a derivation and the rest of the text – or the exception of a parse action -/
def expect (o : Option (Items Cnt)) (rest : List Char) : Res (Items Cnt) :=
  match o with
  | some fs => .ok (fs, rest)
  | none => .error .abort

theorem expect_ne_fail (o : Option (Items Cnt)) (X : List Char) : expect o X ≠ .error .fail := by
  cases o <;> simp [expect]

/-! ## where the loops stop -/

/-- the element loop stops here: after blanks there is no upper-case letter -/
def ElemStop (X : List Char) : Prop := ∀ c, (skipWs X).head? = some c → isUp c = false

theorem pSymbol_fail_stop (T : Table) (X : List Char) (h : ElemStop X) : pSymbol T X = .error .fail := by
  unfold pSymbol
  cases hs : skipWs X with
  | nil => rfl
  | cons c cs => simp [h c (by rw [hs]; rfl)]

theorem pElement_fail_stop (T : Table) (X : List Char) (h : ElemStop X) : pElement T X = .error .fail := by
  unfold pElement; rw [pSymbol_fail_stop T X h]

theorem pElements_nil_stop (T : Table) (n : Nat) (X : List Char) (h : ElemStop X) :
    pElements T n X = .ok (.nil, X) := by
  cases n with
  | zero => rfl
  | succ n => simp [pElements, pElement_fail_stop T X h]

theorem pImplicit_fail_stop (T : Table) (n : Nat) (X : List Char) (hn : NoNumHead X) (h : ElemStop X) :
    pImplicit T n X = .error .fail := by
  rw [pImplicit, pCount_default X hn]
  simp only
  rw [pElements_nil_stop T n X h]
  rfl

theorem elemStop_ws_append {b Z : List Char} (hb : AllWs b) (hz : ElemStop Z) : ElemStop (b ++ Z) := by
  rw [ElemStop, skipWs_append_allWs hb Z]
  exact hz

theorem elemStop_cons {c : Char} {R : List Char} (hw : isWs c = false) (hu : isUp c = false) :
    ElemStop (c :: R) := by
  rw [ElemStop, skipWs_cons_of_not_ws hw]
  exact head_cons hu

/-- the composite loop stops here: after blanks comes `)`, `@` or the end -/
def EndStop (X : List Char) : Prop := ∀ c, (skipWs X).head? = some c → c.toNat = 41 ∨ c.toNat = 64

theorem EndStop.elemStop {X : List Char} (h : EndStop X) : ElemStop X := by
  intro c hc
  have := h c hc
  rw [isUp_false_iff]; omega

theorem EndStop.afterTok {X : List Char} (h : EndStop X) : AfterTok X := by
  cases X with
  | nil => exact head_nil
  | cons c cs =>
    cases hw : isWs c with
    | true => exact afterTok_ws hw
    | false =>
      have := h c (by rw [skipWs_cons_of_not_ws hw]; rfl)
      exact afterTok_of_code (by omega)

theorem pGroup_endStop (T : Table) (n : Nat) (X : List Char) (h : EndStop X) : pGroup T n X = .error .fail := by
  cases n with
  | zero => rfl
  | succ n =>
    have hlit : pLit '(' X = none := pLit_none fun c hc => by
      have := h c hc
      show c.toNat ≠ 40
      omega
    rw [pGroup, pImplicit_fail_stop T n X h.afterTok.noNum h.elemStop]
    rw [hlit]

theorem skipSep_endStop (X : List Char) (h : EndStop X) : skipSep X = skipWs X :=
  skipSep_of_noPlus fun c hc => by
    have := h c hc
    omega

theorem pMore_endStop (T : Table) (n : Nat) (X : List Char) (h : EndStop X) :
    pMore T n X = .ok (.nil, X) := by
  cases n with
  | zero => rfl
  | succ n =>
    rw [pMore, skipSep_endStop X h, pGroup_endStop T n (skipWs X) (by rw [EndStop, skipWs_idem]; exact h)]

/-! ## an element run -/

theorem elem_text_afterTok (e : Elem) (he : e.ok = true) (Y : List Char) : AfterTok (e.text ++ Y) := by
  obtain ⟨u, cs, ht, hpre, hu⟩ := elem_text_head he
  rw [ht, List.append_assoc]
  exact afterTok_ws_append hpre (afterTok_up hu)

theorem elemsText_afterTok (els : List Elem) (h : elemsOk els = true) (X : List Char) (hX : AfterTok X) :
    AfterTok (elemsText els ++ X) := by
  cases els with
  | nil => simpa [elemsText] using hX
  | cons e r =>
    simp only [elemsOk, Bool.and_eq_true] at h
    simpa [elemsText, List.append_assoc] using elem_text_afterTok e h.1 (elemsText r ++ X)

theorem pElements_cons {T : Table} {n : Nat} {s Y X : List Char} {e : Elem} {r : List Elem}
    (he : pElement T s = elemExpect T e Y) (hr : pElements T n Y = expect (elemsItems T r) X) :
    pElements T (n + 1) s = expect (elemsItems T (e :: r)) X := by
  rw [pElements, he]
  unfold elemExpect
  simp only [elemsItems]
  cases e.atom T with
  | none => rfl
  | some x =>
    simp only
    rw [hr]
    cases elemsItems T r <;> rfl

theorem pElements_elems (T : Table) : ∀ (els : List Elem), elemsOk els = true → ∀ (X : List Char),
    AfterTok X → ElemStop X → ∀ n, els.length ≤ n →
    pElements T n (elemsText els ++ X) = expect (elemsItems T els) X
  | [], _, X, _, hs, n, _ => pElements_nil_stop T n X hs
  | e :: r, h, X, hX, hs, n + 1, hn => by
    simp only [elemsOk, Bool.and_eq_true] at h
    have he := pElement_elem T e h.1 [] (elemsText r ++ X) AllWs.nil (elemsText_afterTok r h.2 X hX)
    rw [elemsText, List.append_assoc]
    exact pElements_cons he (pElements_elems T r h.2 X hX hs n (Nat.le_of_succ_le_succ hn))

theorem elemsItems_cons_notNil {T : Table} {e : Elem} {r : List Elem} {fs : Items Cnt}
    (h : elemsItems T (e :: r) = some fs) : isNil fs = false := by
  simp only [elemsItems] at h
  split at h
  · simp at h; rw [← h]; rfl
  · simp at h

/-! ## what a canonical group or composite begins with -/

theorem group_text_head (g : Group) (hc : g.canon = true) :
    ∃ c cs, g.text = c :: cs ∧
      ((g.isImplicit = true ∧ g.leadNone = true ∧ isUp c = true) ∨
       (g.isImplicit = false ∧ c.toNat = 40) ∨
       (g.leadNone = false ∧ (isDig c = true ∨ c.toNat = 46))) := by
  cases g with
  | implicit lead els =>
    cases els with
    | nil => simp [Group.canon] at hc
    | cons e r =>
      simp only [Group.canon, Bool.and_eq_true, Bool.or_eq_true, Bool.not_eq_true', elemsOk,
        List.isEmpty_iff] at hc
      obtain ⟨⟨hl, he, _⟩, hpre⟩ := hc
      cases hn : lead.isNone with
      | true =>
        obtain rfl := CntTok.eq_none hn
        obtain hp : e.pre = [] := hpre.resolve_left (by simp [hn])
        obtain ⟨u, cs, ht, -, hu⟩ := elem_text_head he
        exact ⟨u, _, by simp [Group.text, CntTok.text, elemsText, ht, hp]; rfl, Or.inl ⟨rfl, hn, hu⟩⟩
      | false =>
        obtain ⟨c, cs, hc', hcd⟩ := cntTok_head hl hn
        exact ⟨c, cs ++ elemsText (e :: r), by simp [Group.text, hc'], Or.inr (Or.inr ⟨hn, hcd⟩)⟩
  | explicit b0 b1 inner b2 b3 cnt =>
    simp only [Group.canon, Bool.and_eq_true, List.isEmpty_iff] at hc
    obtain rfl : b0 = [] := hc.1.1.1.1.1.1
    exact ⟨'(', _, rfl, Or.inr (Or.inl ⟨rfl, rfl⟩)⟩

theorem comp_text_head (d : Comp) (hc : d.canon = true) :
    ∃ c cs, d.text = c :: cs ∧
      ((d.first.isImplicit = true ∧ d.first.leadNone = true ∧ isUp c = true) ∨
       (d.first.isImplicit = false ∧ c.toNat = 40) ∨
       (d.first.leadNone = false ∧ (isDig c = true ∨ c.toNat = 46))) := by
  cases d with
  | one g => exact group_text_head g (by simpa [Comp.canon] using hc)
  | more g s r =>
    simp only [Comp.canon, Bool.and_eq_true] at hc
    obtain ⟨c, cs, h, hh⟩ := group_text_head g hc.1.1.1
    exact ⟨c, cs ++ (s.text ++ r.text), by simp [Comp.text, h], hh⟩

/-- what the readers that come before a composite need of its text -/
structure CompHead (d : Comp) (X : List Char) : Prop where
  noWs : NoWsHead X
  notPlus : ∀ c, X.head? = some c → c.toNat ≠ 43
  after : d.first.leadNone = true → AfterTok X
  stop : d.first.isImplicit = false ∨ d.first.leadNone = false → ElemStop X

theorem comp_head (d : Comp) (hc : d.canon = true) (W : List Char) : CompHead d (d.text ++ W) := by
  obtain ⟨c, cs, h, hh⟩ := comp_text_head d hc
  rw [h]
  rcases hh with ⟨hi, hl, hu⟩ | ⟨_, hp⟩ | ⟨hl, hn⟩
  · -- an upper-case letter
    refine ⟨head_cons (isWs_false_of_isUp hu), head_cons (by rw [isUp_iff] at hu; omega),
      fun _ => afterTok_up hu, fun hg => ?_⟩
    rcases hg with h | h
    · rw [hi] at h; cases h
    · rw [hl] at h; cases h
  · -- `(`
    have hw : isWs c = false := by rw [isWs_false_iff]; omega
    exact ⟨head_cons hw, head_cons (by omega), fun _ => afterTok_of_code (Or.inl (by omega)),
      fun _ => elemStop_cons hw (by rw [isUp_false_iff]; omega)⟩
  · -- a digit or `.`
    have hw := isWs_false_of_numHead hn
    refine ⟨head_cons hw, head_cons ?_, fun h => ?_, fun _ => elemStop_cons hw ?_⟩
    · rcases hn with h | h
      · rw [isDig_iff] at h; omega
      · omega
    · rw [hl] at h; cases h
    · rcases hn with h | h
      · rw [isDig_iff] at h; rw [isUp_false_iff]; omega
      · rw [isUp_false_iff]; omega

/-! ## what a group, a composite needs of the text that follows it -/

structure GroupFollow (g : Group) (X : List Char) : Prop where
  after : AfterTok X
  stop : g.isImplicit = true → ElemStop X
  bare : g.bare = true → NoWsHead X

structure CompFollow (d : Comp) (X : List Char) : Prop where
  after : AfterTok X
  stop : EndStop X
  bare : d.lastBare = true → NoWsHead X

theorem CompFollow.close {d : Comp} {b : List Char} (hb : AllWs b) {c : Char}
    (hc : c.toNat = 41 ∨ c.toNat = 64) (R : List Char) (hbare : d.lastBare = true → b = []) :
    CompFollow d (b ++ c :: R) := by
  have hw : isWs c = false := by rw [isWs_false_iff]; omega
  refine ⟨afterTok_ws_append hb (afterTok_of_code (by omega)), ?_, fun h => ?_⟩
  · rw [EndStop, skipWs_allWs_noWs hb (head_cons hw)]; exact head_cons hc
  · rw [hbare h]; exact head_cons hw

theorem CompFollow.blank {d : Comp} {b : List Char} (hb : AllWs b) (hbare : d.lastBare = true → b = []) :
    CompFollow d b := by
  refine ⟨afterTok_allWs hb, ?_, fun h => ?_⟩
  · rw [EndStop, skipWs_of_allWs hb]; exact head_nil
  · rw [hbare h]; exact head_nil

/-- `link` is what a group needs of the separator and the composite that follow it -/
theorem follow_of_link (g : Group) (s : Sep) (nxt : Comp) (hl : link g s nxt.first = true) (hs : s.ok = true)
    (hn : nxt.canon = true) (W : List Char) : GroupFollow g (s.text ++ (nxt.text ++ W)) := by
  simp only [link, Bool.and_eq_true, Bool.or_eq_true, Bool.not_eq_true'] at hl
  obtain ⟨⟨⟨l1, l2⟩, l3⟩, l4⟩ := hl
  simp only [Sep.ok, Bool.and_eq_true, Bool.or_eq_true, List.isEmpty_iff] at hs
  obtain ⟨⟨hb1, _⟩, hb3⟩ := hs
  have hb1' := allWs_iff.1 hb1
  cases hp : s.plus with
  | true =>
    -- blanks, then `+`
    rw [show s.text ++ (nxt.text ++ W) = s.b1 ++ '+' :: (s.b2 ++ (nxt.text ++ W)) by simp [Sep.text, hp]]
    exact ⟨afterTok_ws_append hb1' (afterTok_of_code (Or.inl (by decide))),
      fun _ => elemStop_ws_append hb1' (elemStop_cons (by decide) (by decide)),
      fun hbare => by
        rw [List.isEmpty_iff.1 (l3.resolve_left (by simp [hbare]))]; exact head_cons (by decide)⟩
  | false =>
    -- blanks (none: then the next group has no leading count), then the next group
    obtain hb2 : s.b2 = [] := hb3.resolve_left (by simp [hp])
    have hemp : s.b1 = [] → nxt.first.leadNone = true := fun h1 =>
      l1.resolve_left (by simp [Sep.isEmpty, h1, hp, hb2])
    rw [show s.text ++ (nxt.text ++ W) = s.b1 ++ (nxt.text ++ W) by simp [Sep.text, hp, hb2]]
    refine ⟨?_, fun himp => elemStop_ws_append hb1' ((comp_head nxt hn W).stop ?_), fun hbare => ?_⟩
    · cases h1 : s.b1 with
      | nil => exact (comp_head nxt hn W).after (hemp h1)
      | cons w ws => exact afterTok_ws (hb1' w (by simp [h1]))
    · rcases l4 with ((h | h) | h) | h
      · rw [hp] at h; cases h
      · rw [himp] at h; cases h
      · exact Or.inl h
      · exact Or.inr h
    · obtain ⟨hemp, _⟩ : s.isEmpty = true ∧ nxt.first.leadNone = true := by
        rcases l2 with (h | h) | h
        · rw [hp] at h; cases h
        · rw [hbare] at h; cases h
        · simpa using h
      have h1 : s.b1 = [] := by simp [Sep.isEmpty] at hemp; exact hemp.1.1
      rw [h1]; exact (comp_head nxt hn W).noWs

/-! ## a parenthesised group is its composite between the literals, then a count -/

theorem pGroup_explicit {T : Table} {n : Nat} {b1 I b2 b3 Z Y : List Char} {o : Option (Items Cnt)} {c : Cnt}
    (hb1 : AllWs b1) (hb2 : AllWs b2) (hb3 : AllWs b3)
    (hin : NoWsHead (I ++ (b2 ++ ')' :: (b3 ++ Z)))) (hz : NoWsHead Z)
    (hC : pComposite T n (I ++ (b2 ++ ')' :: (b3 ++ Z))) = expect o (b2 ++ ')' :: (b3 ++ Z)))
    (hcnt : pCount Z = .ok (c, Y)) :
    pGroup T (n + 1) ('(' :: (b1 ++ (I ++ (b2 ++ ')' :: (b3 ++ Z))))) = expect (o.map (wrap c)) Y := by
  rw [pGroup, pImplicit_fail_stop T n _ (head_cons ⟨by decide, by decide⟩) (elemStop_cons (by decide) (by decide))]
  rw [show pLit '(' ('(' :: _) = some _ from pLit_blanks '(' (by decide) [] _ AllWs.nil]
  simp only
  rw [skipWs_allWs_noWs hb1 hin, hC]
  cases o with
  | none => rfl
  | some fs =>
    simp only [expect]
    rw [pLit_blanks ')' (by decide) b2 _ hb2]
    simp only
    rw [skipWs_allWs_noWs hb3 hz, hcnt]
    rfl

/-! ## a composite is a group and the loop; a turn of the loop is a separator and a composite -/

theorem pComposite_one {T : Table} {n : Nat} {s X : List Char} {g : Group}
    (hG : pGroup T n s = expect (g.items T) X) (hM : pMore T n X = .ok (.nil, X)) :
    pComposite T (n + 1) s = expect ((Comp.one g).items T) X := by
  rw [pComposite, hG, Comp.items]
  cases g.items T with
  | none => rfl
  | some fs => simp only [expect, hM, Items.append_nil]

theorem pComposite_more {T : Table} {n : Nat} {s Y X : List Char} {g : Group} {sep : Sep} {rest : Comp}
    (hG : pGroup T n s = expect (g.items T) Y) (hM : pMore T n Y = expect (rest.items T) X) :
    pComposite T (n + 1) s = expect ((Comp.more g sep rest).items T) X := by
  rw [pComposite, hG, Comp.items]
  cases g.items T with
  | none => rfl
  | some fs =>
    simp only [expect]
    rw [hM]
    cases rest.items T <;> rfl

theorem pMore_eq_pComposite {T : Table} {n : Nat} {s : List Char}
    (h : pComposite T (n + 1) (skipSep s) ≠ .error .fail) :
    pMore T (n + 1) s = pComposite T (n + 1) (skipSep s) := by
  rw [pMore_succ]
  split
  · rename_i hg; rw [pComposite, hg] at h; exact absurd rfl h
  · rfl

/-- after a separator the loop reads what `pComposite` reads -/
theorem more_of_comp {T : Table} {d : Comp} (hc : d.canon = true) {s : Sep} (hs : s.ok = true) {X : List Char}
    (h : ∃ N, ∀ n, N ≤ n → pComposite T n (d.text ++ X) = expect (d.items T) X) :
    ∃ N, ∀ n, N ≤ n → pMore T n (s.text ++ (d.text ++ X)) = expect (d.items T) X := by
  obtain ⟨N, h⟩ := h
  refine ⟨N, fun n hn => ?_⟩
  have hsep := skipSep_sep s hs _ (comp_head d hc X).noWs (comp_head d hc X).notPlus
  cases n with
  | zero => exact absurd (h 0 hn).symm (expect_ne_fail _ _)
  | succ n =>
    rw [pMore_eq_pComposite (by rw [hsep, h _ hn]; exact expect_ne_fail _ _), hsep, h _ hn]

/-! The induction speaks of all sufficiently large fuel: a reader succeeds with one unit more than its
parts need. -/

theorem largeFuel_succ {P Q : Nat → Prop} (h : ∃ N, ∀ n, N ≤ n → P n) (step : ∀ n, P n → Q (n + 1)) :
    ∃ N, ∀ n, N ≤ n → Q n := by
  obtain ⟨N, hN⟩ := h
  refine ⟨N + 1, fun n hn => ?_⟩
  obtain ⟨n, rfl⟩ : ∃ n', n = n' + 1 := ⟨n - 1, by omega⟩
  exact step n (hN n (by omega))

theorem largeFuel_and {P Q : Nat → Prop} (hP : ∃ N, ∀ n, N ≤ n → P n) (hQ : ∃ N, ∀ n, N ≤ n → Q n) :
    ∃ N, ∀ n, N ≤ n → P n ∧ Q n := by
  obtain ⟨N1, h1⟩ := hP
  obtain ⟨N2, h2⟩ := hQ
  exact ⟨N1 + N2, fun n hn => ⟨h1 n (by omega), h2 n (by omega)⟩⟩

mutual
theorem group_parse (T : Table) : (g : Group) → g.canon = true → ∀ (X : List Char), GroupFollow g X →
    ∃ N, ∀ n, N ≤ n → pGroup T n (g.text ++ X) = expect (g.items T) X
  | .implicit lead [], hc, _, _ => by simp [Group.canon] at hc
  | .implicit lead (e :: r), hc, X, hX => by
    simp only [Group.canon, Bool.and_eq_true] at hc
    obtain ⟨⟨hl, hels⟩, _⟩ := hc
    refine largeFuel_succ ⟨_, pElements_elems T (e :: r) hels X hX.after (hX.stop rfl)⟩ fun n hE => ?_
    have hafter := elemsText_afterTok (e :: r) hels X hX.after
    rw [pGroup, pImplicit, Group.text, List.append_assoc, pCount_tok lead hl _ hafter.noNum]
    simp only
    rw [hE, Group.items]
    cases hi : elemsItems T (e :: r) with
    | none => rfl
    | some fs => simp only [expect, elemsItems_cons_notNil hi]; rfl
  | .explicit b0 b1 inner b2 b3 cnt, hc, X, hX => by
    simp only [Group.canon, Bool.and_eq_true, Bool.or_eq_true, Bool.not_eq_true', List.isEmpty_iff] at hc
    obtain ⟨⟨⟨⟨⟨⟨rfl, hb1⟩, hb2⟩, hb3⟩, hcnt⟩, hin⟩, hlb⟩ := hc
    have hb2' := allWs_iff.1 hb2
    have hY : CompFollow inner (b2 ++ ')' :: (b3 ++ (cnt.text ++ X))) :=
      CompFollow.close hb2' (Or.inl rfl) _ fun h => hlb.resolve_left (by simp [h])
    refine largeFuel_succ (comp_parse T inner hin _ hY) fun n hN => ?_
    have hG := pGroup_explicit (allWs_iff.1 hb1) hb2' (allWs_iff.1 hb3) (comp_head inner hin _).noWs
      (cntTok_text_noWs hcnt hX.bare) hN (pCount_tok cnt hcnt X hX.after.noNum)
    simp only [Group.text, Group.items, List.nil_append, List.append_assoc, List.cons_append]
    rw [hG]
    cases inner.items T with
    | none => rfl
    | some fs => rfl
theorem comp_parse (T : Table) : (d : Comp) → d.canon = true → ∀ (X : List Char), CompFollow d X →
    ∃ N, ∀ n, N ≤ n → pComposite T n (d.text ++ X) = expect (d.items T) X
  | .one g, hc, X, hX =>
    largeFuel_succ (group_parse T g hc X ⟨hX.after, fun _ => hX.stop.elemStop, hX.bare⟩) fun n hG =>
      pComposite_one hG (pMore_endStop T n X hX.stop)
  | .more g s2 rest, hc, X, hX => by
    simp only [Comp.canon, Bool.and_eq_true] at hc
    obtain ⟨⟨⟨hg, hs2⟩, hl⟩, hr⟩ := hc
    have hG := group_parse T g hg _ (follow_of_link g s2 rest hl hs2 hr X)
    have hM := more_of_comp hr hs2 (comp_parse T rest hr X ⟨hX.after, hX.stop, hX.bare⟩)
    rw [Comp.text, List.append_assoc, List.append_assoc]
    exact largeFuel_succ (largeFuel_and hG hM) fun n h => pComposite_more h.1 h.2
end

theorem more_parse (T : Table) : (d : Comp) → d.canon = true → ∀ (s : Sep), s.ok = true →
    ∀ (X : List Char), CompFollow d X →
    ∃ N, ∀ n, N ≤ n → pMore T n (s.text ++ (d.text ++ X)) = expect (d.items T) X :=
  fun d hc _ hs X hX => more_of_comp hc hs (comp_parse T d hc X hX)

/-! ## blanks before a composite that does not open with a count are skipped -/

theorem pElement_ws (T : Table) {b : List Char} (hb : AllWs b) (s : List Char) :
    pElement T (b ++ s) = pElement T s := by
  unfold pElement pSymbol
  rw [skipWs_append_allWs hb s]

theorem pImplicit_ws (T : Table) (n : Nat) {b : List Char} (hb : AllWs b) {s : List Char} (hs : NoNumHead s) :
    pImplicit T n (b ++ s) = pImplicit T n s := by
  unfold pImplicit
  rw [pCount_default _ (noNumHead_ws_append hb hs), pCount_default s hs]
  cases n with
  | zero => rfl
  | succ n =>
    simp only [pElements, pElement_ws T hb]
    cases pElement T s with
    | ok x => rfl
    | error e => cases e <;> rfl

theorem pComposite_ws (T : Table) (n : Nat) {b : List Char} (hb : AllWs b) {s : List Char}
    (hs : b ≠ [] → NoNumHead s) : pComposite T n (b ++ s) = pComposite T n s := by
  cases b with
  | nil => rfl
  | cons w ws =>
    match n with
    | 0 => rfl
    | 1 => rfl
    | n + 2 =>
      simp only [pComposite, pGroup, pImplicit_ws T n hb (hs (by simp)), pLit, skipWs_append_allWs hb s]

/-! ## the whole string -/

theorem parse_blank (T : Table) (b : List Char) (hb : AllWs b) : parse T b = .ok (.nil, none) := by
  have hs := skipWs_of_allWs hb
  have hf : pComposite T (fuelFor b) b = .error .fail := by
    rw [fuelFor, pComposite, pGroup_endStop T _ b (by rw [EndStop, hs]; exact head_nil)]
  unfold parse
  rw [hf]
  simp [hs]

theorem parse_yield (T : Table) (D : Compound) (hc : D.canon = true) :
    parse T D.text = match D.result T with
      | some r => .ok r
      | none => .error .abort := by
  cases D with
  | empty b =>
    simpa [Compound.text, Compound.result] using parse_blank T b (allWs_iff.1 hc)
  | full lead comp dens trail =>
    simp only [Compound.canon, Bool.and_eq_true, Bool.or_eq_true, List.isEmpty_iff] at hc
    obtain ⟨⟨⟨⟨hlead, htrail⟩, hcomp⟩, hfirst⟩, hdens⟩ := hc
    have hlead' := allWs_iff.1 hlead
    have htrail' := allWs_iff.1 htrail
    let X := optText DensTok.text dens ++ trail
    have hX : CompFollow comp X := by
      cases dens with
      | none =>
        simp only [Bool.or_eq_true, Bool.not_eq_true', List.isEmpty_iff] at hdens
        exact CompFollow.blank htrail' fun h => hdens.resolve_left (by simp [h])
      | some d =>
        simp only [Bool.and_eq_true, Bool.or_eq_true, Bool.not_eq_true', List.isEmpty_iff, DensTok.ok] at hdens
        simp only [X, optText, DensTok.text, List.append_assoc, List.cons_append]
        exact CompFollow.close (allWs_iff.1 hdens.1.1.1.1) (Or.inr rfl) _ fun h => hdens.2.resolve_left (by simp [h])
    obtain ⟨N, hN⟩ := comp_parse T comp hcomp X hX
    have htext : (Compound.full lead comp dens trail).text = lead ++ (comp.text ++ X) := by
      simp [Compound.text, X]
    rw [htext]
    have hC := hN (max N (fuelFor (lead ++ (comp.text ++ X)))) (by omega)
    rw [← pComposite_ws T _ hlead' (fun hne => ((comp_head comp hcomp X).after (hfirst.resolve_left hne)).noNum),
      pComposite_fuel T _ _ (by omega)] at hC
    unfold parse
    rw [hC]
    simp only [Compound.result]
    cases hi : comp.items T with
    | none => simp [expect]
    | some fs =>
      simp only [expect]
      cases hd : dens with
      | none =>
        simp only [X, hd, optText, List.nil_append, Option.map_none]
        rw [pDensity_none trail htrail']
        simp [skipWs_of_allWs htrail']
      | some d =>
        rw [hd] at hdens
        simp only [Bool.and_eq_true] at hdens
        simp only [X, hd, optText, Option.map_some]
        rw [pDensity_tok d hdens.1 trail htrail']
        simp [skipWs_of_allWs htrail']

end PtModel.Grammar
