/-! What the three interpolation searches of the model (`xsf` tables, `numpy.interp` in the neutron
model and in the neutron loader) share: a strictly increasing list splits around each of its
elements (`pairwise_lt_split`), and a linear search passes over a prefix that lies left of `x`
(`scan_drop`; the neutron model's search carries its last node as an argument and is taken as a
function of the list headed by that node).  Core Lean only. -/
namespace PtModel

/-- in a list with strictly increasing keys, what stands before an element has a smaller key and
    what stands after it a larger one -/
theorem pairwise_lt_split {γ κ : Type} [LT κ] (key : γ → κ) {pre post : List γ} {a : γ}
    (h : ((pre ++ a :: post).map key).Pairwise (· < ·)) :
    (∀ m ∈ pre, key m < key a) ∧ (∀ m ∈ post, key a < key m) := by
  rw [List.map_append, List.map_cons, List.pairwise_append, List.pairwise_cons] at h
  exact ⟨fun m hm => h.2.2 _ (List.mem_map_of_mem hm) _ List.mem_cons_self,
    fun m hm => h.2.1.1 _ (List.mem_map_of_mem hm)⟩

/-- a left-to-right search that steps over a node whenever the next one is still `≤ x` passes
    over any prefix lying left of `x` -/
theorem scan_drop {γ β κ : Type} [LE κ] (F : List γ → β) (key : γ → κ) (x : κ)
    (step : ∀ p q t, key p ≤ x → key q ≤ x → F (p :: q :: t) = F (q :: t))
    (pre : List γ) (r : γ) (t : List γ) (hpre : ∀ m ∈ pre, key m ≤ x) (hr : key r ≤ x) :
    F (pre ++ r :: t) = F (r :: t) := by
  induction pre with
  | nil => rfl
  | cons p pre' ih =>
    rw [← ih fun m hm => hpre m (List.mem_cons_of_mem _ hm)]
    cases pre' with
    | nil => exact step p r t (hpre p List.mem_cons_self) hr
    | cons q s => exact step p q _ (hpre p List.mem_cons_self) (hpre q (by simp))

end PtModel
