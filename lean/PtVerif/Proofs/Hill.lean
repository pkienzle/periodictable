import PtVerif.Proofs.Formula
import PtVerif.Proofs.SortBy
import PtVerif.Model.Symbols
import Mathlib.Data.Prod.Lex

/-! Hill order (C19).  The sort key is compared as Python compares the tuple, lexicographically, so the
order on keys is linear; the sort is Mathlib's `insertionSort` (`SortBy.lean`), so two sorted
permutations of a dict on which the key is injective coincide.  Every weighted sum of a Hill form
is that of the dict (`flatMass_hillS`).  Last, the key built from a symbol table is injective when the
table's symbol codes, `D` and `T` are pairwise distinct (`symOfTable_injective`). -/
namespace PtModel

theorem HillKey.le_iff (x y : HillKey) :
    x.le y = true ↔
      x.cls < y.cls ∨ (x.cls = y.cls ∧ (x.sym < y.sym ∨ (x.sym = y.sym ∧
        (x.iso < y.iso ∨ (x.iso = y.iso ∧ x.chg ≤ y.chg))))) := by
  unfold HillKey.le
  by_cases h1 : x.cls = y.cls <;> by_cases h2 : x.sym = y.sym <;> by_cases h3 : x.iso = y.iso <;>
    simp [h1, h2, h3]

/-- the key as Python compares it: a tuple, lexicographically -/
def HillKey.lex (x : HillKey) : ℕ ×ₗ ℕ ×ₗ ℕ ×ₗ ℤ := toLex (x.cls, toLex (x.sym, toLex (x.iso, x.chg)))

theorem HillKey.le_iff_lex (x y : HillKey) : x.le y = true ↔ x.lex ≤ y.lex := by
  simp only [HillKey.le_iff, HillKey.lex, Prod.Lex.toLex_le_toLex]

theorem HillKey.lex_injective : Function.Injective HillKey.lex := by
  rintro ⟨⟩ ⟨⟩ h
  simpa [HillKey.lex] using h

theorem HillKey.le_total (x y : HillKey) : x.le y = true ∨ y.le x = true := by
  simp only [HillKey.le_iff_lex]; exact _root_.le_total _ _

theorem HillKey.le_trans {x y z : HillKey} (h1 : x.le y = true) (h2 : y.le z = true) :
    x.le z = true := by
  rw [HillKey.le_iff_lex] at *; exact _root_.le_trans h1 h2

theorem HillKey.le_antisymm {x y : HillKey} (h1 : x.le y = true) (h2 : y.le x = true) : x = y := by
  rw [HillKey.le_iff_lex] at *; exact HillKey.lex_injective (_root_.le_antisymm h1 h2)

variable {α : Type}

def hillRel (sym : Nat → Nat → Nat) (x y : Atom × α) : Prop :=
  (hillKey sym x.1).le (hillKey sym y.1) = true

instance (sym : Nat → Nat → Nat) : DecidableRel (hillRel (α := α) sym) :=
  fun _ _ => inferInstanceAs (Decidable (_ = true))

instance (sym : Nat → Nat → Nat) : Std.Total (hillRel (α := α) sym) :=
  ⟨fun _ _ => HillKey.le_total _ _⟩

instance (sym : Nat → Nat → Nat) : IsTrans (Atom × α) (hillRel sym) :=
  ⟨fun _ _ _ h1 h2 => HillKey.le_trans h1 h2⟩

/-- the sorted dict entries of `_convert_to_hill_notation` -/
def hillSorted (sym : Nat → Nat → Nat) (t : List (Atom × α)) : List (Atom × α) :=
  sortBy (fun x y => (hillKey sym x.1).le (hillKey sym y.1)) t

theorem hillSorted_eq (sym : Nat → Nat → Nat) (t : List (Atom × α)) :
    hillSorted sym t = t.insertionSort (hillRel sym) := sortBy_eq _ t

theorem hillSorted_perm (sym : Nat → Nat → Nat) (t : List (Atom × α)) : (hillSorted sym t).Perm t :=
  perm_sortBy _ t

theorem hillSorted_pairwise (sym : Nat → Nat → Nat) (t : List (Atom × α)) :
    (hillSorted sym t).Pairwise (hillRel sym) := by
  rw [hillSorted_eq]; exact List.pairwise_insertionSort _ t

theorem hillSorted_of_pairwise {sym : Nat → Nat → Nat} {l : List (Atom × α)}
    (h : l.Pairwise (hillRel sym)) : hillSorted sym l = l := by
  rw [hillSorted_eq, h.insertionSort_eq]

theorem KeysNodup.hillSorted {t : List (Atom × α)} (h : KeysNodup t) (sym : Nat → Nat → Nat) :
    KeysNodup (PtModel.hillSorted sym t) :=
  ((hillSorted_perm sym t).map Prod.fst).nodup_iff.mpr h

/-- the key distinguishes atoms (holds for the generated symbol table: `C19.key_injective`) -/
def KeyInjective (sym : Nat → Nat → Nat) (dom : Atom → Prop) : Prop :=
  ∀ x y, dom x → dom y → hillKey sym x = hillKey sym y → x = y

theorem hillSorted_canonical (sym : Nat → Nat → Nat) {dom : Atom → Prop} (hinj : KeyInjective sym dom)
    (t₁ t₂ : List (Atom × α)) (hd : ∀ e ∈ t₁, dom e.1) (hk : KeysNodup t₁) (hp : t₁.Perm t₂) :
    hillSorted sym t₁ = hillSorted sym t₂ := by
  have p1 := hillSorted_perm sym t₁
  have p2 := hillSorted_perm sym t₂
  have pp : (hillSorted sym t₁).Perm (hillSorted sym t₂) := p1.trans (hp.trans p2.symm)
  refine List.Perm.eq_of_pairwise (le := hillRel sym) ?_ (hillSorted_pairwise sym t₁)
    (hillSorted_pairwise sym t₂) pp
  intro a b ha hb hab hba
  have ha1 : a ∈ t₁ := p1.subset ha
  have hb1 : b ∈ t₁ := hp.symm.subset (p2.subset hb)
  have hkey : a.1 = b.1 := hinj _ _ (hd a ha1) (hd b hb1) (HillKey.le_antisymm hab hba)
  -- one dict holds at most one entry per atom
  exact List.inj_on_of_nodup_map hk ha1 hb1 hkey

theorem hillS_eq (sym : Nat → Nat → Nat) (t : List (Atom × α)) :
    hillS sym t = Items.ofList ((hillSorted sym t).map fun e => (e.2, Frag.atom e.1)) := rfl

/-- the atoms listed by a Hill form, in order -/
theorem hillS_keys (sym : Nat → Nat → Nat) (t : List (Atom × α)) :
    (hillS sym t).toList.map (fun e => e.2) = (hillSorted sym t).map fun e => Frag.atom e.1 := by
  rw [hillS_eq]
  generalize hillSorted sym t = l
  induction l with
  | nil => rfl
  | cons e r ih => simp only [List.map_cons, Items.ofList, Items.toList, ih]

section Flat
variable [CommSemiring α]

theorem flatMass_ofList_atoms (w : Atom → α) (l : List (Atom × α)) :
    (Items.ofList (l.map fun e => (e.2, Frag.atom e.1))).flatMass w = wsum w l := by
  induction l with
  | nil => rfl
  | cons e r ih => rw [List.map_cons, Items.ofList, Items.flatMass, Frag.flatMass, ih, wsum_cons]

theorem flatMass_hillS (sym : Nat → Nat → Nat) (w : Atom → α) (t : List (Atom × α)) :
    (hillS sym t).flatMass w = wsum w t := by
  rw [hillS_eq, flatMass_ofList_atoms, wsum_perm w (hillSorted_perm sym t)]

theorem cnt_hillS (sym : Nat → Nat → Nat) (t : List (Atom × α)) (b : Atom) :
    (hillS sym t).cnt b = total t b := by
  rw [Items.cnt_eq_flatMass, flatMass_hillS, total_eq_wsum]

theorem hill_counts (sym : Nat → Nat → Nat) (t : List (Atom × α)) (hk : KeysNodup t) (b : Atom) :
    lookupD (hillS sym t).atoms b = lookupD t b := by
  rw [Items.lookupD_atoms, cnt_hillS, lookupD_eq_total hk]

theorem cnt_hillS_atoms (sym : Nat → Nat → Nat) (s : Items α) (b : Atom) :
    (hillS sym s.atoms).cnt b = s.cnt b := by
  rw [cnt_hillS, ← lookupD_eq_total s.keysNodup_atoms, Items.lookupD_atoms]

theorem countAcc_ofList_atoms (l t : List (Atom × α)) (h : ((t ++ l).map Prod.fst).Nodup) :
    (Items.ofList (l.map fun e => (e.2, Frag.atom e.1))).countAcc t = t ++ l := by
  induction l generalizing t with
  | nil => simp [Items.ofList, Items.countAcc]
  | cons e r ih =>
    obtain ⟨a, c⟩ := e
    have hmem : a ∉ t.map Prod.fst := by
      intro hm
      rw [List.map_append, List.nodup_append] at h
      exact h.2.2 a hm a (by simp) rfl
    simp only [List.map_cons, Items.ofList, Items.countAcc, Frag.count, mergeScaled, List.foldl_cons,
      List.foldl_nil]
    rw [bump_not_mem t a _ hmem, ih]
    · simp
    · simpa using h

theorem atoms_ofList_atoms (l : List (Atom × α)) (h : KeysNodup l) :
    (Items.ofList (l.map fun e => (e.2, Frag.atom e.1))).atoms = l := by
  rw [Items.atoms, countAcc_ofList_atoms l [] h, List.nil_append]

theorem hill_idempotent (sym : Nat → Nat → Nat) (t : List (Atom × α)) (h : KeysNodup t) :
    hillS sym (hillS sym t).atoms = hillS sym t := by
  rw [hillS_eq sym t, atoms_ofList_atoms _ (h.hillSorted sym), hillS_eq,
    hillSorted_of_pairwise (hillSorted_pairwise sym t)]

end Flat

theorem symOfTable_cases {tbl : List (Nat × Nat)} {z : Nat} (hz : z ∈ tbl.map Prod.fst) (a : Nat) :
    z = 1 ∧ symOfTable tbl z a ∈ [codeD, codeT] ∨ (z, symOfTable tbl z a) ∈ tbl := by
  unfold symOfTable
  split
  · next h => exact Or.inl ⟨h.1, List.mem_cons_self⟩
  split
  · next h => exact Or.inl ⟨h.1, List.mem_cons_of_mem _ List.mem_cons_self⟩
  right
  obtain ⟨e, he, rfl⟩ := List.mem_map.mp hz
  cases hf : tbl.find? (·.1 = e.1) with
  | none => exact absurd (decide_eq_true rfl) (List.find?_eq_none.mp hf e he)
  | some e' =>
    have h1 : e'.1 = e.1 := by simpa using List.find?_some hf
    rw [← h1]
    exact List.mem_of_find?_eq_some hf

theorem symOfTable_injective (tbl : List (Nat × Nat))
    (hc : (tbl.map Prod.snd ++ [codeD, codeT]).Nodup) :
    KeyInjective (symOfTable tbl) (fun x => x.z ∈ tbl.map Prod.fst) := by
  intro x y hx hy hk
  obtain ⟨-, hs, ha, hq⟩ := HillKey.mk.inj hk
  -- equal keys have equal isotope and charge; the symbol then tells the element
  suffices hz : x.z = y.z by
    exact congr (congr (congrArg Atom.mk hz) ha) hq
  have inTable : ∀ {z c}, (z, c) ∈ tbl → c ∉ [codeD, codeT] := fun hm =>
    List.disjoint_of_nodup_append hc (List.mem_map_of_mem (f := Prod.snd) hm)
  rw [← ha] at hs
  rcases symOfTable_cases hx x.a with ⟨hx1, hxs⟩ | hxm
  · rcases symOfTable_cases hy x.a with ⟨hy1, -⟩ | hym
    · rw [hx1, hy1]
    · exact absurd (hs ▸ hxs) (inTable hym)
  · rcases symOfTable_cases hy x.a with ⟨-, hys⟩ | hym
    · exact absurd (hs ▸ hys) (inTable hxm)
    · rw [hs] at hxm
      exact (Prod.mk.inj (List.inj_on_of_nodup_map hc.of_append_left hxm hym rfl)).1

end PtModel
