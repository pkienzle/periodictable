import PtVerif.Proofs.LazyGroup
/-! Histories of the whole machine (C09, C10): the log of user values and mutation marks read by
owner; the invariant "the configuration passes `SafeCfg`, every group's control state lies in
`reach`, the log says nothing about the public table"; what a read serves in such a state;
assignments and in-place mutations change the log of their own table only. -/
namespace PtLazy
variable {ts : List Nat}

/-! ## the log, by owner -/

/-- the table a log entry belongs to (`none`: a mark on a module-level / class-level object) -/
def LEntry.owner : LEntry → Option Nat
  | .user t _ _ _ _ _ => some t
  | .mark sc _ _ _ _ => sc

def slice (o : Option Nat) (log : List LEntry) : List LEntry := log.filter fun e => e.owner = o

theorem slice_cons_of_ne {o : Option Nat} {e : LEntry} (h : e.owner ≠ o) (l : List LEntry) :
    slice o (e :: l) = slice o l := by
  simp [slice, h]

theorem slice_filter {o : Option Nat} {f : LEntry → Bool} (hf : ∀ e, f e = false → e.owner ≠ o)
    (l : List LEntry) : slice o (l.filter f) = slice o l := by
  unfold slice
  rw [List.filter_filter]
  apply List.filter_congr
  intro e _
  cases hfe : f e with
  | true => simp
  | false => simp [hf e hfe]

theorem slice_addMark {o : Option Nat} {e : LEntry} (h : e.owner ≠ o) (l : List LEntry) :
    slice o (addMark l e) = slice o l := by
  unfold addMark
  split
  · rfl
  · exact slice_cons_of_ne h l

theorem filterMap_slice {β : Type} {o : Option Nat} {f : LEntry → Option β}
    (hf : ∀ e, e.owner ≠ o → f e = none) (log : List LEntry) :
    (slice o log).filterMap f = log.filterMap f := by
  unfold slice
  rw [List.filterMap_filter]
  congr 1
  funext e
  split
  · rfl
  · next h => exact (hf e (by simpa using h)).symm

theorem userVal_slice (log : List LEntry) (t : Nat) (node : Node) (p : Nat) :
    userVal log t node p = userVal (slice (some t) log) t node p := by
  unfold userVal
  rw [← List.head?_filterMap, ← List.head?_filterMap, filterMap_slice]
  intro e h
  cases e with
  | user t' _ _ _ _ _ => exact if_neg fun hc => h (congrArg some hc.1)
  | mark _ _ _ _ _ => rfl

theorem marksOf_slice (log : List LEntry) (sc : Option Nat) (a p : Nat) (src : Nat × Nat) :
    marksOf log sc a p src = marksOf (slice sc log) sc a p src := by
  unfold marksOf
  rw [filterMap_slice]
  intro e h
  cases e with
  | user _ _ _ _ _ _ => rfl
  | mark sc' _ _ _ _ => exact if_neg fun hc => h hc.1

theorem orcOf_slice (log : List LEntry) (t : Nat) (chain : List Node) (p : Nat) :
    orcOf log t chain p = orcOf (slice (some t) log) t chain p := by
  funext pos
  simp only [orcOf, ← userVal_slice]

theorem marksOf_nil (sc : Option Nat) (a p : Nat) (src : Nat × Nat) : marksOf [] sc a p src = [] := by
  simp [marksOf]

theorem mem_marksOf {log : List LEntry} {sc : Option Nat} {a p : Nat} {src : Nat × Nat} {n : Nat}
    (h : n ∈ marksOf log sc a p src) : LEntry.mark sc a p src n ∈ log := by
  unfold marksOf at h
  obtain ⟨e, he, hf⟩ := List.mem_filterMap.mp ((List.mergeSort_perm _ _).mem_iff.mp h)
  cases e with
  | user _ _ _ _ _ _ => simp [markOf] at hf
  | mark sc' a' p' s' n' =>
    simp only [markOf] at hf
    split at hf
    · next hc =>
      cases hf
      obtain ⟨rfl, rfl, rfl, rfl⟩ := hc
      exact he
    · cases hf

/-- the log has no user value and no mutation mark of table t.  The form in which C10 states it;
    the proofs read it as `slice (some t) log = []` (`tableClean_iff`). -/
def TableClean (t : Nat) (log : List LEntry) : Prop :=
  ∀ e ∈ log, match e with
    | .user t' _ _ _ _ _ => t' ≠ t
    | .mark scope _ _ _ _ => scope ≠ some t

theorem tableClean_iff {t : Nat} {log : List LEntry} : TableClean t log ↔ slice (some t) log = [] := by
  simp only [TableClean, slice, List.filter_eq_nil_iff, decide_eq_true_eq]
  refine forall_congr' fun e => imp_congr_right fun _ => ?_
  cases e <;> simp [LEntry.owner]

/-- nothing in the log concerns table `t`: no entry of `t`, no global mark -/
def Quiet (t : Nat) (log : List LEntry) : Prop := slice (some t) log = [] ∧ slice none log = []

theorem Quiet.mono {t : Nat} {log log' : List LEntry} (h : Quiet t log) (hs : log' ⊆ log) :
    Quiet t log' := by
  simp only [Quiet, slice, List.filter_eq_nil_iff] at h ⊢
  exact ⟨fun e he => h.1 e (hs he), fun e he => h.2 e (hs he)⟩

theorem Quiet.userVal {t : Nat} {log : List LEntry} (h : Quiet t log) (node : Node) (p : Nat) :
    userVal log t node p = none := by
  rw [userVal_slice, h.1]
  rfl

theorem Quiet.orcOf {t : Nat} {log : List LEntry} (h : Quiet t log) (chain : List Node) (p : Nat) :
    orcOf log t chain p = noUser := by
  funext pos
  simp only [PtLazy.orcOf, h.userVal]
  split <;> rfl

/-! ## what `serve` reads from the log -/

/-- `serve` consults the log for the user values and the marks of its table; marks on module-level
    or class-level objects are assumed absent from both logs (`hn`, `hn'`) -/
theorem serve_ext {g : GroupCfg} {log log' : List LEntry} {t t' : Nat} (chain : List Node) {p : Nat}
    (hu : ∀ node, userVal log t node p = userVal log' t' node p)
    (hm : ∀ a src, marksOf log (some t) a p src = marksOf log' (some t') a p src)
    (hn : ∀ a src, marksOf log none a p src = []) (hn' : ∀ a src, marksOf log' none a p src = [])
    {r r' : Res Val} (hr : r.strip = r'.strip) :
    serve g log t chain p r.toOut = serve g log' t' chain p r'.toOut := by
  cases r with
  | ok v =>
    cases r' with
    | ok v' =>
      have hv : v.strip = v'.strip := Res.ok.inj hr
      cases v <;> cases v' <;> cases hv
      · simp only [Res.toOut, serve]
        cases g.sharedEff _ _ <;> simp [hm, hn, hn']
      · rename_i pos
        simp only [Res.toOut, serve]
        cases chain[pos]? <;> simp [hu]
      · simp [Res.toOut, serve, hn, hn']
      · simp [Res.toOut, serve, hm]
    | _ => cases hr
  | _ => cases r' <;> cases hr <;> rfl

theorem serve_quiet {g : GroupCfg} {log log' : List LEntry} {t t' : Nat} (h : Quiet t log) (h' : Quiet t' log')
    (chain : List Node) (p : Nat) {r r' : Res Val} (hr : r.strip = r'.strip) :
    serve g log t chain p r.toOut = serve g log' t' chain p r'.toOut := by
  refine serve_ext chain ?_ ?_ ?_ ?_ hr
  · intro node; rw [h.userVal, h'.userVal]
  · intro a src; rw [marksOf_slice log, marksOf_slice log', h.1, h'.1, marksOf_nil, marksOf_nil]
  · intro a src; rw [marksOf_slice, h.2, marksOf_nil]
  · intro a src; rw [marksOf_slice, h'.2, marksOf_nil]

theorem serve_slice {g : GroupCfg} {log log' : List LEntry} (h : slice none log = [])
    (h' : slice none log' = []) {t : Nat} (hlog : slice (some t) log = slice (some t) log') (chain : List Node)
    (p : Nat) {r r' : Res Val} (hr : r.strip = r'.strip) :
    serve g log t chain p r.toOut = serve g log' t chain p r'.toOut := by
  refine serve_ext chain ?_ ?_ ?_ ?_ hr
  · intro node; rw [userVal_slice log, userVal_slice log', hlog]
  · intro a src; rw [marksOf_slice log, marksOf_slice log', hlog]
  · intro a src; rw [marksOf_slice, h, marksOf_nil]
  · intro a src; rw [marksOf_slice, h', marksOf_nil]

def Res.toOut' : Res Val → Out := Res.toOut

/-! ## the instance-level actions of an event, applied to the log -/

theorem applyTrace_subset (g : GroupCfg) (log : List LEntry) (tr : List TraceItem) :
    applyTrace g log tr ⊆ log := by
  induction tr with
  | nil => exact List.Subset.refl _
  | cons item older ih =>
    unfold applyTrace
    cases item with
    | wrote t i k =>
      simp only
      split
      · exact List.filter_sublist.subset.trans ih
      · exact ih
    | delAttr t p => exact List.filter_sublist.subset.trans ih

theorem applyTrace_public (g : GroupCfg) {log : List LEntry} (h : Quiet 0 log) :
    ∀ (tr : List TraceItem), (∀ it ∈ tr, it.table = 0) → applyTrace g log tr = log := by
  have hown : ∀ e ∈ log, ∃ t, e.owner = some t ∧ t ≠ 0 := by
    simp only [Quiet, slice, List.filter_eq_nil_iff, decide_eq_true_eq] at h
    intro e he
    cases ho : e.owner with
    | none => exact absurd ho (h.2 e he)
    | some t => exact ⟨t, rfl, fun ht => h.1 e he (by rw [ho, ht])⟩
  intro tr
  induction tr with
  | nil => intro _; rfl
  | cons item older ih =>
    intro hall
    have h0 := hall item (List.mem_cons_self ..)
    unfold applyTrace
    simp only [ih (fun it hit => hall it (List.mem_cons_of_mem _ hit))]
    cases item with
    | wrote t i k =>
      obtain rfl : t = 0 := h0
      simp only
      split
      · apply List.filter_eq_self.mpr
        intro e he
        obtain ⟨t', ho, ht'⟩ := hown e he
        rcases e with _ | _ <;> cases ho <;> simp [ht']
      · rfl
    | delAttr t p =>
      obtain rfl : t = 0 := h0
      apply List.filter_eq_self.mpr
      intro e he
      obtain ⟨t', ho, ht'⟩ := hown e he
      rcases e with _ | _ <;> cases ho <;> simp [ht']

/-! ## the invariant of histories -/

structure GInv (ts : List Nat) (cfg : Config) (s : State) : Prop where
  safe : SafeCfg ts cfg = true
  gs : ∀ {gi : Nat} {g : GroupCfg}, cfg.groups[gi]? = some g → ∃ c, s.gs[gi]? = some c ∧ c ∈ reach ts g
  log : Quiet 0 s.log

theorem GInv.ctl {cfg : Config} {s : State} (h : GInv ts cfg s) {gi : Nat} {g : GroupCfg}
    (hg : cfg.groups[gi]? = some g) : Ctl ts g (reach ts g) :=
  (safeCfg_at h.safe hg).1

theorem init_gs {cfg : Config} {gi : Nat} {g : GroupCfg} (hg : cfg.groups[gi]? = some g) :
    cfg.init.gs[gi]? = some g.initGS := by
  simp [Config.init, hg]

theorem ginv_init {cfg : Config} (h : SafeCfg ts cfg = true) : GInv ts cfg cfg.init :=
  ⟨h, fun hg => ⟨_, init_gs hg, closed_init (safeCfg_at h hg).1.closed⟩, rfl, rfl⟩

theorem stepG_eq {cfg : Config} {s : State} {gi : Nat} {g : GroupCfg} {c : GS}
    (hg : cfg.groups[gi]? = some g) (hc : s.gs[gi]? = some c) (orc : Orc) (e : GEvent) :
    stepG cfg s gi orc e = (⟨s.gs.set gi (gstep g c orc e).1.norm,
      applyTrace g s.log (gstep g c orc e).1.trace⟩, (gstep g c orc e).2) := by
  simp [stepG, hg, hc, GS.norm]

theorem stepG_none {cfg : Config} {s : State} {gi : Nat}
    (h : cfg.groups[gi]? = none ∨ s.gs[gi]? = none) (orc : Orc) (e : GEvent) :
    (stepG cfg s gi orc e).1 = s := by
  unfold stepG
  rcases h with h | h
  · simp [h]
  · cases hg : cfg.groups[gi]? <;> simp [h]

theorem stepG_gs {cfg : Config} {s : State} {gi : Nat} {g : GroupCfg} {c : GS}
    (hg : cfg.groups[gi]? = some g) (hc : s.gs[gi]? = some c) (orc : Orc) (e : GEvent) (gj : Nat) :
    (stepG cfg s gi orc e).1.gs[gj]? =
      if gi = gj then some (gstep g c orc e).1.norm else s.gs[gj]? := by
  rw [stepG_eq hg hc, List.getElem?_set, if_pos (List.getElem?_eq_some_iff.mp hc).1]

theorem stepG_log_subset {cfg : Config} {s : State} {gi : Nat} {orc : Orc} {e : GEvent} :
    (stepG cfg s gi orc e).1.log ⊆ s.log := by
  cases hg : cfg.groups[gi]? with
  | none => rw [stepG_none (.inl hg)]; exact List.Subset.refl _
  | some g =>
    cases hc : s.gs[gi]? with
    | none => rw [stepG_none (.inr hc)]; exact List.Subset.refl _
    | some c => rw [stepG_eq hg hc]; exact applyTrace_subset g s.log _

theorem ginv_stepG {cfg : Config} {s : State} (hinv : GInv ts cfg s)
    (gi : Nat) (orc : Orc) (ev : GEvent)
    (hev : ∀ g, cfg.groups[gi]? = some g → ev.ok ts g) : GInv ts cfg (stepG cfg s gi orc ev).1 := by
  cases hg : cfg.groups[gi]? with
  | none => rw [stepG_none (.inl hg)]; exact hinv
  | some g =>
    obtain ⟨c, hc, hcR⟩ := hinv.gs hg
    refine ⟨hinv.safe, fun {gj g'} hg' => ?_, hinv.log.mono stepG_log_subset⟩
    rw [stepG_gs hg hc]
    split
    · next hj =>
      subst hj
      rw [hg] at hg'
      cases hg'
      exact ⟨_, rfl, gstep_closed (hinv.ctl hg) hcR orc ev (hev g hg)⟩
    · exact hinv.gs hg'

/-! ## admissible events -/

/-- events the theorems range over: on the tables of `ts`; assignment and in-place mutation only on
    private tables; and no in-place mutation of a class-level default object (finding D20: the
    `Neutron()` placeholder is shared by all tables) -/
def evOK (ts : List Nat) (cfg : Config) (s : State) : Event → Prop
  | .read t _ _ => t ∈ ts
  | .has t _ _ => t ∈ ts
  | .init _ t => t ∈ ts
  | .importMod _ => True
  | .assign t _ _ _ => t ∈ ts ∧ t ≠ 0
  | .mutate t chain p _ => t ∈ ts ∧ t ≠ 0 ∧
      ∀ gi, cfg.groupOf p = some gi → ∀ i v t' m,
        (stepG cfg s gi (orcOf s.log t chain p) (.read t chain p)).2 ≠ .val (.dflt i v t' m)

def runOK (ts : List Nat) (cfg : Config) : State → List Event → Prop
  | _, [] => True
  | s, e :: es => evOK ts cfg s e ∧ runOK ts cfg (step cfg s e).1 es

def Event.isMutate : Event → Bool
  | .mutate _ _ _ _ => true
  | _ => false

/-- the table an assignment or in-place mutation is made through -/
def Event.target : Event → Option Nat
  | .assign t _ _ _ => some t
  | .mutate t _ _ _ => some t
  | _ => none

/-! ## explicit `init(m, t)`: what it does to one group's control state and to the log -/

/-- the loop body of `stepInit` -/
def initBody (cfg : Config) (m t : Nat) (acc : State × Out) (gi : Nat) : State × Out :=
  match cfg.groups[gi]? with
  | some g =>
    if (g.effsOf m).isSome then
      let (s1, o) := stepG cfg acc.1 gi noUser (.init m t)
      (s1, if acc.2 = .done then o else acc.2)
    else acc
  | none => acc

theorem stepInit_eq (cfg : Config) (s : State) (m t : Nat) :
    stepInit cfg s m t = (List.range cfg.groups.length).foldl (initBody cfg m t) (s, .done) := rfl

theorem initBody_fst (cfg : Config) (m t : Nat) (acc : State × Out) (gi : Nat) :
    (initBody cfg m t acc gi).1 = acc.1 ∨
      (∃ g, cfg.groups[gi]? = some g ∧ (g.effsOf m).isSome = true ∧
        (initBody cfg m t acc gi).1 = (stepG cfg acc.1 gi noUser (.init m t)).1) := by
  unfold initBody
  cases hg : cfg.groups[gi]? with
  | none => exact .inl rfl
  | some g =>
    simp only
    split
    · next hm => exact .inr ⟨g, rfl, hm, rfl⟩
    · exact .inl rfl

theorem ginv_stepInit {cfg : Config} (m t : Nat) (ht : t ∈ ts)
    {s : State} (hinv : GInv ts cfg s) : GInv ts cfg (stepInit cfg s m t).1 := by
  rw [stepInit_eq]
  refine List.foldlRecOn (motive := fun acc : State × Out => GInv ts cfg acc.1) _ _ hinv fun acc h gi _ => ?_
  rcases initBody_fst cfg m t acc gi with he | ⟨g, hg, hm, he⟩
  · rwa [he]
  · rw [he]
    refine ginv_stepG h gi noUser (.init m t) fun g' hg' => ?_
    rw [hg] at hg'
    cases hg'
    cases hes : g.effsOf m with
    | none => simp [hes] at hm
    | some es => exact ⟨ht, es, effsOf_mem hes⟩

theorem stepInit_log_subset (cfg : Config) (s : State) (m t : Nat) : (stepInit cfg s m t).1.log ⊆ s.log := by
  rw [stepInit_eq]
  refine List.foldlRecOn (motive := fun acc : State × Out => acc.1.log ⊆ s.log) _ _
    (List.Subset.refl _) fun acc h gi _ => ?_
  rcases initBody_fst cfg m t acc gi with he | ⟨g, -, -, he⟩
  · rwa [he]
  · rw [he]
    exact stepG_log_subset.trans h

theorem foldl_initBody_gs {cfg : Config} (m t gi : Nat) {g : GroupCfg} (hg : cfg.groups[gi]? = some g)
    (hm : (g.effsOf m).isSome = true) :
    ∀ (l : List Nat), l.Nodup → ∀ (s : State) (o : Out) (c : GS), s.gs[gi]? = some c →
      (l.foldl (initBody cfg m t) (s, o)).1.gs[gi]? =
        if gi ∈ l then some (runInit g fuel0 c m t).1.norm else some c := by
  intro l
  induction l with
  | nil => intro _ s o c hc; simpa using hc
  | cons gj l ih =>
    intro hnd s o c hc
    have hnd' := List.nodup_cons.mp hnd
    simp only [List.foldl_cons]
    by_cases hji : gj = gi
    · subst hji
      have hstep : (initBody cfg m t (s, o) gj).1.gs[gj]? = some (runInit g fuel0 c m t).1.norm := by
        simp only [initBody, hg, hm, ↓reduceIte]
        rw [stepG_gs hg hc, if_pos rfl, gstep_fst]
      rw [ih hnd'.2 _ _ _ hstep, if_neg hnd'.1]
      simp
    · have hstep : (initBody cfg m t (s, o) gj).1.gs[gi]? = some c := by
        rcases initBody_fst cfg m t (s, o) gj with he | ⟨g', hgj, -, he⟩
        · rw [he]; exact hc
        · rw [he]
          cases hcj : s.gs[gj]? with
          | none => rw [stepG_none (.inr hcj)]; exact hc
          | some c' => rw [stepG_gs hgj hcj, if_neg hji]; exact hc
      rw [ih hnd'.2 _ _ c hstep]
      simp [Ne.symm hji]

theorem stepInit_gs {cfg : Config} {s : State} (m t : Nat) {gi : Nat} {g : GroupCfg} {c : GS}
    (hg : cfg.groups[gi]? = some g) (hm : (g.effsOf m).isSome = true) (hc : s.gs[gi]? = some c) :
    (stepInit cfg s m t).1.gs[gi]? = some (runInit g fuel0 c m t).1.norm := by
  rw [stepInit_eq, foldl_initBody_gs m t gi hg hm _ List.nodup_range s .done c hc,
    if_pos (List.mem_range.mpr (List.getElem?_eq_some_iff.mp hg).1)]

/-! ## assignments and in-place mutations change the log of their own table only -/

/-- an assignment or an admissible in-place mutation made through table t is the group step of an
    access, and changes no part of the log but t's -/
theorem step_write {cfg : Config} {s : State} {e : Event} {t : Nat} (ht : e.target = some t)
    (hev : evOK ts cfg s e) (hsh : e.isMutate = true → NoSharedCfg cfg) :
    (step cfg s e).1 = s ∨ ∃ gi orc ev, GEvent.isAccess ev = true ∧
      (step cfg s e).1.gs = (stepG cfg s gi orc ev).1.gs ∧
      ∀ o, o ≠ some t → slice o (step cfg s e).1.log = slice o (stepG cfg s gi orc ev).1.log := by
  cases e with
  | assign t0 chain p v =>
    obtain rfl : t0 = t := Option.some.inj ht
    simp only [step]
    split
    · next gi node rest _ =>
      refine .inr ⟨gi, orcOf s.log t0 (node :: rest) p, .assign t0 (node :: rest) p, rfl, ?_⟩
      generalize stepG cfg s gi (orcOf s.log t0 (node :: rest) p) (.assign t0 (node :: rest) p) = r
      obtain ⟨s1, o⟩ := r
      cases o with
      | done =>
        refine ⟨rfl, fun o ho => ?_⟩
        rw [slice_cons_of_ne (Ne.symm ho), slice_filter]
        intro e he
        cases e with
        | user t1 _ _ _ _ _ =>
          simp only [Bool.not_eq_eq_eq_not, Bool.not_false, Bool.and_eq_true, decide_eq_true_eq] at he
          rw [LEntry.owner, he.1.1.1]
          exact Ne.symm ho
        | mark _ _ _ _ _ => cases he
      | _ => exact ⟨rfl, fun _ _ => rfl⟩
    · exact .inl rfl
  | mutate t0 chain p n =>
    obtain rfl : t0 = t := Option.some.inj ht
    cases hgi : cfg.groupOf p with
    | none => exact .inl (by simp only [step, hgi])
    | some gi =>
      refine .inr ⟨gi, orcOf s.log t0 chain p, .read t0 chain p, rfl, ?_⟩
      have hnd := hev.2.2 gi hgi
      simp only [step, hgi]
      generalize stepG cfg s gi (orcOf s.log t0 chain p) (.read t0 chain p) = r at hnd ⊢
      obtain ⟨s1, o⟩ := r
      cases hg : cfg.groups[gi]? with
      | none => exact ⟨rfl, fun _ _ => rfl⟩
      | some g =>
        have hns := hsh rfl g (List.mem_of_getElem? hg)
        have hadd : ∀ a src o, o ≠ some t0 →
            slice o (addMark s1.log (.mark (some t0) a p src n)) = slice o s1.log :=
          fun a src o ho => slice_addMark (Ne.symm ho) _
        rcases o with (_ | _ | _ | _) | _ | _ | _ | _ | _
        · -- loader data: no loader shares objects (`hns`), so the mark is owned by t0
          simp only [sharedEff_false hns, true_and]
          exact hadd _ _
        · -- a user value: rejected, nothing is marked
          exact ⟨rfl, fun _ _ => rfl⟩
        · -- a class-level default: the one case with a global mark, excluded by `evOK`
          exact absurd rfl (hnd _ _ _ _)
        · -- a computed value: cached on the atom, so the mark is owned by t0
          exact ⟨rfl, hadd _ _⟩
        -- no value was read: nothing is marked
        all_goals exact ⟨rfl, fun _ _ => rfl⟩
  | _ => cases ht

/-! ## every admissible event keeps the invariant -/

theorem ginv_step {cfg : Config} {s : State} (hinv : GInv ts cfg s)
    (e : Event) (hev : evOK ts cfg s e) (hsh : e.isMutate = true → NoSharedCfg cfg) :
    GInv ts cfg (step cfg s e).1 := by
  have hwrite : ∀ t, e.target = some t → t ≠ 0 → GInv ts cfg (step cfg s e).1 := by
    intro t ht ht0
    rcases step_write ht hev hsh with h | ⟨gi, orc, ev, hacc, hgs, hlog⟩
    · rwa [h]
    · have h1 := ginv_stepG hinv gi orc ev fun g _ => by
        cases ev with
        | init _ _ => cases hacc
        | _ => trivial
      refine ⟨hinv.safe, by rw [hgs]; exact h1.gs, ?_, ?_⟩
      · rw [hlog _ (fun h => ht0 (Option.some.inj h).symm)]; exact h1.log.1
      · rw [hlog _ (fun h => by cases h)]; exact h1.log.2
  cases e with
  | read t chain p | has t chain p =>
    simp only [step]
    cases hgi : cfg.groupOf p with
    | none => exact hinv
    | some gi => exact ginv_stepG hinv gi _ _ (fun _ _ => trivial)
  | init m t => exact ginv_stepInit m t hev hinv
  | importMod m =>
    simp only [step]
    split
    · refine List.foldlRecOn (motive := GInv ts cfg) _ _ hinv fun st h cp _ => ?_
      split
      · exact ginv_stepG h _ noUser _ (fun _ _ => trivial)
      · exact h
    · exact hinv
  | assign t chain p v => exact hwrite t rfl hev.2
  | mutate t chain p n => exact hwrite t rfl hev.2.1

theorem ginv_run {cfg : Config} :
    ∀ (h : List Event) (s : State), GInv ts cfg s → runOK ts cfg s h →
      (∀ e ∈ h, e.isMutate = true → NoSharedCfg cfg) → GInv ts cfg (run cfg s h)
  | [], _, hi, _, _ => hi
  | e :: es, _, hi, hr, hsh =>
    ginv_run es _ (ginv_step hi e hr.1 (hsh e (List.mem_cons_self ..))) hr.2
      (fun e' he' => hsh e' (List.mem_cons_of_mem _ he'))

theorem ginv_history {cfg : Config} (hsafe : SafeCfg ts cfg = true) {h : List Event}
    (hok : runOK ts cfg cfg.init h) (hsh : ∀ e ∈ h, e.isMutate = true → NoSharedCfg cfg) :
    GInv ts cfg (run cfg cfg.init h) :=
  ginv_run h _ (ginv_init hsafe) hok hsh

/-! ## what a read serves in a state of the invariant -/

theorem groupOf_some {cfg : Config} {p gi : Nat} (h : cfg.groupOf p = some gi) :
    ∃ g, cfg.groups[gi]? = some g ∧ p ∈ g.attrs := by
  unfold Config.groupOf at h
  obtain ⟨hlt, hp, _⟩ := List.findIdx?_eq_some_iff_getElem.mp h
  exact ⟨cfg.groups[gi], List.getElem?_eq_getElem hlt, List.contains_iff_mem.mp hp⟩

/-- a top-level read / `hasattr`: the value of the group's control state, served from the log
    that the group step leaves -/
theorem step_read_served {cfg : Config} {s : State} (hinv : GInv ts cfg s) {p gi : Nat}
    {g : GroupCfg} (hgi : cfg.groupOf p = some gi) (hg : cfg.groups[gi]? = some g)
    (t : Nat) (chain : List Node) :
    ∃ c, s.gs[gi]? = some c ∧ c ∈ reach ts g ∧
      (step cfg s (.read t chain p)).2 =
        serve g (stepG cfg s gi (orcOf s.log t chain p) (.read t chain p)).1.log t chain p
          (readVal g c t chain p (orcOf s.log t chain p)).toOut ∧
      ∀ log, (step cfg s (.has t chain p)).2 =
        serve g log t chain p (hasOut (readVal g c t chain p (orcOf s.log t chain p))) := by
  obtain ⟨c, hc, hcR⟩ := hinv.gs hg
  obtain ⟨hr, hh⟩ := gstep_read_out (hinv.ctl hg) hcR t chain p (orcOf s.log t chain p)
  refine ⟨c, hc, hcR, ?_, fun log => ?_⟩
  · simp only [step, hgi, hg]
    rw [stepG_eq hg hc, hr]
  · simp only [step, hgi, hg]
    rw [stepG_eq hg hc, hh]
    cases readVal g c t chain p (orcOf s.log t chain p) <;> rfl

/-- a read (or `hasattr`) in a state of the invariant, on a table its log says nothing about,
    serves what a fresh interpreter serves publicly if the control state yields the same value as
    the initial one -/
theorem read_eq_canon {cfg : Config} {s : State} (hinv : GInv ts cfg s) {t : Nat} (hq : Quiet t s.log)
    (chain : List Node) (p : Nat)
    (H : ∀ gi g c, cfg.groupOf p = some gi → cfg.groups[gi]? = some g → p ∈ g.attrs →
      s.gs[gi]? = some c → c ∈ reach ts g →
      (readVal g c t chain p noUser).strip = (readVal g g.initGS 0 chain p noUser).strip) :
    (step cfg s (.read t chain p)).2 = canon cfg (.read 0 chain p) ∧
    (step cfg s (.has t chain p)).2 = canon cfg (.has 0 chain p) := by
  unfold canon
  cases hgi : cfg.groupOf p with
  | none => simp [step, hgi]
  | some gi =>
    have hinit := ginv_init hinv.safe
    obtain ⟨g, hg, hp⟩ := groupOf_some hgi
    obtain ⟨c, hc, hcR, hr, hh⟩ := step_read_served hinv hgi hg t chain
    obtain ⟨c', hc', -, hr', hh'⟩ := step_read_served hinit hgi hg 0 chain
    obtain rfl : g.initGS = c' := Option.some.inj ((init_gs hg).symm.trans hc')
    have hval := H gi g c hgi hg hp hc hcR
    have hq' : Quiet 0 cfg.init.log := hinit.log
    rw [hr, hr', hh [], hh' [], hq.orcOf, hq'.orcOf, hasOut_strip hval]
    refine ⟨serve_quiet (hq.mono stepG_log_subset) (hq'.mono stepG_log_subset) chain p hval, ?_⟩
    cases hasOut (readVal g g.initGS 0 chain p noUser) <;> rfl

/-- **served = canon**: after every admissible history a read of the public table – through any
    atom, by any route – serves what a fresh interpreter serves; the same for `hasattr` -/
theorem served_public {cfg : Config} (hsafe : SafeCfg ts cfg = true) {h : List Event}
    (hok : runOK ts cfg cfg.init h) (hsh : ∀ e ∈ h, e.isMutate = true → NoSharedCfg cfg)
    (chain : List Node) (hch : ChainOK chain) (p : Nat) :
    (step cfg (run cfg cfg.init h) (.read 0 chain p)).2 = canon cfg (.read 0 chain p) ∧
    (step cfg (run cfg cfg.init h) (.has 0 chain p)).2 = canon cfg (.has 0 chain p) := by
  have hinv := ginv_history hsafe hok hsh
  exact read_eq_canon hinv hinv.log chain p fun gi g c _ hg hp _ hcR =>
    publicSame_at (safeCfg_at hsafe hg).2 hcR hch hp

/-! ## an access on one table changes nothing that another table serves -/

/-- `gs'` differs from `gs`, group by group, at most by a forced load -/
def Forced (cfg : Config) (gs gs' : List GS) : Prop :=
  ∀ gj : Nat, gs'[gj]? = gs[gj]? ∨
    ∃ (g : GroupCfg) (c : GS), cfg.groups[gj]? = some g ∧ gs[gj]? = some c ∧ c.noPending = false ∧
      gs'[gj]? = some (forceAt g forceFuel c).1.norm

theorem stepG_access {cfg : Config}
    (hiso : ForceCfg ts cfg)
    {s : State} (hinv : GInv ts cfg s) (gi : Nat) (orc : Orc) (ev : GEvent) (hev : ev.isAccess = true) :
    (stepG cfg s gi orc ev).1.log = s.log ∧ Forced cfg s.gs (stepG cfg s gi orc ev).1.gs := by
  cases hg : cfg.groups[gi]? with
  | none => rw [stepG_none (.inl hg)]; exact ⟨rfl, fun _ => .inl rfl⟩
  | some g =>
    obtain ⟨c, hc, hcR⟩ := hinv.gs hg
    have hctl := hinv.ctl hg
    refine ⟨?_, fun gj => ?_⟩
    · rw [stepG_eq hg hc]
      exact applyTrace_public g hinv.log _
        (access_trace_public hctl (hiso g (List.mem_of_getElem? hg)).2 hcR orc hev)
    · rw [stepG_gs hg hc]
      split
      · next hj =>
        subst hj
        rcases gstep_state hctl hcR orc hev with h | ⟨hp, h⟩
        · rw [h, closed_norm hctl.closed hcR, hc]
          exact .inl rfl
        · rw [h]
          exact .inr ⟨g, c, hg, hc, hp, rfl⟩
      · exact .inl rfl

theorem read_congr {cfg : Config}
    (hiso : ForceCfg ts cfg)
    {s s' : State} (hinv : GInv ts cfg s) (hinv' : GInv ts cfg s')
    {t : Nat} (ht : t ∈ ts) (chain : List Node) (hch : ChainOK chain) (p : Nat)
    (hgs : Forced cfg s.gs s'.gs)
    (hlog : slice (some t) s'.log = slice (some t) s.log) :
    (step cfg s' (.read t chain p)).2 = (step cfg s (.read t chain p)).2 := by
  cases hgi : cfg.groupOf p with
  | none => simp [step, hgi]
  | some gi =>
    obtain ⟨g, hg, hp⟩ := groupOf_some hgi
    obtain ⟨c, hc, hcR, hr, -⟩ := step_read_served hinv hgi hg t chain
    obtain ⟨c', hc', -, hr', -⟩ := step_read_served hinv' hgi hg t chain
    rw [hr, hr', (stepG_access hiso hinv gi _ (.read t chain p) rfl).1,
      (stepG_access hiso hinv' gi _ (.read t chain p) rfl).1,
      orcOf_slice s'.log, hlog, ← orcOf_slice]
    apply serve_slice hinv'.log.2 hinv.log.2 hlog
    rcases hgs gi with hsame | ⟨g', c0, hg', hcs, hpend, hforced⟩
    · rw [hc, hc'] at hsame
      cases hsame
      rfl
    · rw [hg] at hg'
      cases hg'
      rw [hc] at hcs
      cases hcs
      rw [hc'] at hforced
      cases hforced
      exact (forceSame_at (hiso g (List.mem_of_getElem? hg)).1 hcR hpend ht hch hp _).symm

/-- **isolation**: after an assignment or an admissible in-place mutation made through table t,
    every other table – the public one or another private one – serves exactly what it served
    before -/
theorem write_isolated {cfg : Config}
    (hiso : ForceCfg ts cfg)
    {s : State} (hinv : GInv ts cfg s) {e : Event} {t : Nat} (het : e.target = some t)
    (hev : evOK ts cfg s e) (hsh : e.isMutate = true → NoSharedCfg cfg)
    {t' : Nat} (ht' : t' ∈ ts) (hne : t' ≠ t) (chain' : List Node) (hch : ChainOK chain') (p' : Nat) :
    (step cfg (step cfg s e).1 (.read t' chain' p')).2 = (step cfg s (.read t' chain' p')).2 := by
  have hinv1 := ginv_step hinv e hev hsh
  rcases step_write het hev hsh with h | ⟨gi, orc, ev, hacc, hgs, hlog⟩
  · rw [h]
  · obtain ⟨hl, hg⟩ := stepG_access hiso hinv gi orc ev hacc
    refine read_congr hiso hinv hinv1 ht' chain' hch p' ?_ ?_
    · rwa [hgs]
    · rw [hlog _ (fun h => hne (Option.some.inj h)), hl]

/-! ## in-place mutation marks are only ever served through the table they were made on -/

def Served.marks : Served → List Nat
  | .data _ _ m => m
  | .computed _ _ _ m => m
  | .dflt _ _ m => m
  | _ => []

/-- marks carried by a value served on table t were made through table t -/
def marksLocal (t p : Nat) (log : List LEntry) : Served → Prop
  | .data i k marks => ∀ n ∈ marks, ∃ a, LEntry.mark (some t) a p (i, k) n ∈ log
  | .computed i k _ marks => ∀ n ∈ marks, ∃ a, LEntry.mark (some t) a p (i, k) n ∈ log
  | .dflt _ _ marks => marks = []
  | _ => True

theorem serve_marksLocal {g : GroupCfg} (hns : noShared g = true) {log : List LEntry} {t0 : Nat}
    (hl : Quiet t0 log) (t : Nat) (chain : List Node) (p : Nat) (o : Out) :
    marksLocal t p log (serve g log t chain p o) := by
  cases o with
  | val v =>
    cases v with
    | data i k m =>
      simp only [serve, sharedEff_false hns, marksLocal]
      exact fun n hn => ⟨_, mem_marksOf hn⟩
    | user pos => simp only [serve]; split <;> trivial
    | dflt i v t' m =>
      simp only [serve, marksLocal]
      rw [marksOf_slice, hl.2, marksOf_nil]
    | computed i k pos =>
      exact fun n hn => ⟨_, mem_marksOf hn⟩
  | _ => trivial

theorem read_marksLocal {cfg : Config} (hsh : NoSharedCfg cfg)
    {s : State} (hinv : GInv ts cfg s) (t : Nat) (chain : List Node) (p : Nat) :
    marksLocal t p (step cfg s (.read t chain p)).1.log (step cfg s (.read t chain p)).2 := by
  simp only [step]
  cases hgi : cfg.groupOf p with
  | none => trivial
  | some gi =>
    obtain ⟨g, hg, _⟩ := groupOf_some hgi
    simp only [hg]
    have h1 := ginv_stepG hinv gi (orcOf s.log t chain p) (.read t chain p) (fun _ _ => trivial)
    exact serve_marksLocal (hsh g (List.mem_of_getElem? hg)) h1.log t chain p _

theorem read_log_subset (cfg : Config) (s : State) (t : Nat) (chain : List Node) (p : Nat) :
    (step cfg s (.read t chain p)).1.log ⊆ s.log := by
  simp only [step]
  cases hgi : cfg.groupOf p with
  | none => exact List.Subset.refl _
  | some gi => exact stepG_log_subset

/-! ## executable versions of the hypotheses (for concrete examples) -/

def evOKb (ts : List Nat) (cfg : Config) (s : State) : Event → Bool
  | .read t _ _ => ts.contains t
  | .has t _ _ => ts.contains t
  | .init _ t => ts.contains t
  | .importMod _ => true
  | .assign t _ _ _ => ts.contains t && t != 0
  | .mutate t chain p _ => ts.contains t && t != 0 &&
      match cfg.groupOf p with
      | none => true
      | some gi =>
        match (stepG cfg s gi (orcOf s.log t chain p) (.read t chain p)).2 with
        | .val (.dflt _ _ _ _) => false
        | _ => true

theorem evOK_of_b {cfg : Config} {s : State} {e : Event} (h : evOKb ts cfg s e = true) : evOK ts cfg s e := by
  cases e with
  | read t c p => exact List.contains_iff_mem.mp h
  | has t c p => exact List.contains_iff_mem.mp h
  | init m t => exact List.contains_iff_mem.mp h
  | importMod m => trivial
  | assign t c p v =>
    simp only [evOKb, Bool.and_eq_true, bne_iff_ne] at h
    exact ⟨List.contains_iff_mem.mp h.1, h.2⟩
  | mutate t c p n =>
    simp only [evOKb, Bool.and_eq_true, bne_iff_ne] at h
    refine ⟨List.contains_iff_mem.mp h.1.1, h.1.2, ?_⟩
    intro gi hgi i v t' m hcontra
    have h2 := h.2
    rw [hgi] at h2
    simp only [hcontra] at h2
    cases h2

def runOKb (ts : List Nat) (cfg : Config) : State → List Event → Bool
  | _, [] => true
  | s, e :: es => evOKb ts cfg s e && runOKb ts cfg (step cfg s e).1 es

theorem runOK_of_b {cfg : Config} : ∀ {h : List Event} {s : State}, runOKb ts cfg s h = true → runOK ts cfg s h
  | [], _, _ => trivial
  | e :: es, s, h => by
    simp only [runOKb, Bool.and_eq_true] at h
    exact ⟨evOK_of_b h.1, runOK_of_b h.2⟩

def tableCleanB (t : Nat) (log : List LEntry) : Bool :=
  log.all fun e => match e with
    | .user t' _ _ _ _ _ => t' != t
    | .mark scope _ _ _ _ => scope != some t

theorem tableClean_of_b {t : Nat} {log : List LEntry} (h : tableCleanB t log = true) : TableClean t log := by
  intro e he
  have := List.all_eq_true.mp h e he
  cases e with
  | user t' _ _ _ _ _ => simpa using this
  | mark sc _ _ _ _ => simpa using this

end PtLazy
