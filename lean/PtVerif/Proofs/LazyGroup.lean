import PtVerif.Proofs.LazyLookup
/-! The control states of one registration group (C09, C10): the finite set `reach ts g`, closed
under the forced load and every init; what a read serves in such a state (`readVal`); and the
decidable conditions on a group and on a configuration that the theorems about histories assume.

What the kernel is to evaluate is `Bool`-valued and used as `… = true` (`closed`, `publicSame`,
`privateSame`, `forceSame`, `noShared`, … and `SafeG`, `SafeCfg`, `SafeIso`, `SafeIso2`, `SafeIso3`);
`Ctl`, `NoSharedCfg`, `ForceCfg` are propositions, read off those by the `…_at` lemmas. -/
namespace PtLazy

variable {ts : List Nat}

/-! ## reachable control states of one group, by closure -/

def GS.norm (s : GS) : GS := { s with trace := [] }

def okU : Res Unit → Bool
  | .ok _ => true
  | _ => false

/-- control successors: the forced load (when something is pending) and every init of the group
    on every table; the flag says the step succeeded (and, for the forced load, left nothing pending) -/
def succs (ts : List Nat) (g : GroupCfg) (c : GS) : List (GS × Bool) :=
  (if c.noPending then [] else
    [((forceAt g forceFuel c).1.norm,
      okU (forceAt g forceFuel c).2 && (forceAt g forceFuel c).1.noPending)]) ++
  g.inits.flatMap fun mi => ts.map fun t =>
    ((runInit g fuel0 c mi.1 t).1.norm, okU (runInit g fuel0 c mi.1 t).2)

def expand (ts : List Nat) (g : GroupCfg) (R : List GS) : List GS :=
  R.foldl (fun acc c => (succs ts g c).foldl (fun a x => if a.contains x.1 then a else a ++ [x.1]) acc) R

/-- six rounds of `expand` from the initial state: enough for the generated configuration to reach
    a closed set.  Nothing rests on the number: that the result is closed is checked (`closed`, part
    of `SafeG`), and a configuration that needs more rounds fails that check. -/
def reach (ts : List Nat) (g : GroupCfg) : List GS :=
  expand ts g (expand ts g (expand ts g (expand ts g (expand ts g (expand ts g [g.initGS])))))

/-- R contains the initial state, its states carry no trace, and every control step from a state
    of R succeeds and leads into R -/
def closed (ts : List Nat) (g : GroupCfg) (R : List GS) : Bool :=
  R.contains g.initGS && R.all fun c =>
    c.trace.isEmpty && (succs ts g c).all fun x => x.2 && R.contains x.1

theorem okU_eq {r : Res Unit} (h : okU r = true) : r = .ok () := by
  cases r with
  | ok u => rfl
  | _ => cases h

section closedFacts
variable {g : GroupCfg} {R : List GS} (hcl : closed ts g R = true)
include hcl

theorem closed_init : g.initGS ∈ R := by
  unfold closed at hcl
  simp only [Bool.and_eq_true] at hcl
  exact List.contains_iff_mem.mp hcl.1

theorem closed_at {c : GS} (hc : c ∈ R) :
    c.trace = [] ∧ ∀ x ∈ succs ts g c, x.2 = true ∧ x.1 ∈ R := by
  unfold closed at hcl
  simp only [Bool.and_eq_true, List.all_eq_true] at hcl
  have := hcl.2 c hc
  refine ⟨List.isEmpty_iff.mp this.1, fun x hx => ?_⟩
  have h2 := this.2 x hx
  exact ⟨h2.1, List.contains_iff_mem.mp h2.2⟩

theorem closed_norm {c : GS} (hc : c ∈ R) : c.norm = c := by
  rw [GS.norm, ← (closed_at hcl hc).1]

theorem closed_force {c : GS} (hc : c ∈ R) (hp : c.noPending = false) :
    ∃ s1, forceAt g forceFuel c = (s1, .ok ()) ∧ s1.noPending = true ∧ s1.norm ∈ R := by
  have h := (closed_at hcl hc).2 ((forceAt g forceFuel c).1.norm,
      okU (forceAt g forceFuel c).2 && (forceAt g forceFuel c).1.noPending) (by
    unfold succs
    rw [hp]
    exact List.mem_append_left _ (List.mem_singleton.mpr rfl))
  simp only [Bool.and_eq_true] at h
  refine ⟨(forceAt g forceFuel c).1, ?_, h.1.2, h.2⟩
  rw [← okU_eq h.1.1]

theorem closed_runInit {c : GS} (hc : c ∈ R) {m : Nat} {es : List Eff} (hm : (m, es) ∈ g.inits)
    {t : Nat} (ht : t ∈ ts) :
    ∃ c', runInit g fuel0 c m t = (c', .ok ()) ∧ c'.norm ∈ R := by
  have h := (closed_at hcl hc).2 ((runInit g fuel0 c m t).1.norm, okU (runInit g fuel0 c m t).2) (by
    unfold succs
    refine List.mem_append_right _ (List.mem_flatMap.mpr ⟨(m, es), hm, List.mem_map.mpr ⟨t, ht, rfl⟩⟩))
  refine ⟨(runInit g fuel0 c m t).1, ?_, h.2⟩
  rw [← okU_eq h.1]

end closedFacts

/-- the accessors are `clearprops(); loader(); get / set` and R is closed: what the lemmas about
    one event need of a group -/
structure Ctl (ts : List Nat) (g : GroupCfg) (R : List GS) : Prop where
  getter : g.getter = [.clear, .load, .get]
  setter : g.setter = [.clear, .load, .set]
  closed : closed ts g R = true

/-! ## one event on one group -/

/-- events of one group that the theorems range over: tables of `ts`, inits of the group -/
def GEvent.ok (ts : List Nat) (g : GroupCfg) : GEvent → Prop
  | .init m t => t ∈ ts ∧ ∃ es, (m, es) ∈ g.inits
  | _ => True

def GEvent.isAccess : GEvent → Bool
  | .init _ _ => false
  | _ => true

theorem gstep_fst (g : GroupCfg) (c : GS) (orc : Orc) (ev : GEvent) :
    (gstep g c orc ev).1 =
      match ev with
      | .read t chain p => (getAttr g fuel0 c t chain 0 p orc).1
      | .has t chain p => (getAttr g fuel0 c t chain 0 p orc).1
      | .init m t => (runInit g fuel0 c m t).1
      | .assign t chain p => (setAttr g fuel0 c t chain 0 p orc .user).1 := by
  cases ev <;> simp only [gstep] <;> split <;> simp only [*]

section
variable {g : GroupCfg} {R : List GS} (h : Ctl ts g R) {c : GS} (hc : c ∈ R)
include h hc

theorem getAttr_reach (t : Nat) (chain : List Node) (p : Nat) (orc : Orc) :
    getAttr g fuel0 c t chain 0 p orc = getSpec g c (forceAt g forceFuel c).1 t chain 0 p orc := by
  cases hp : c.noPending with
  | true => rw [fuel0_eq, getAttr_noPending g hp, getSpec_noPending g hp]
  | false =>
    obtain ⟨s1, hf, hnp, -⟩ := closed_force h.closed hc hp
    rw [fuel0_eq, getAttr_spec g h.getter 55 hf hnp, hf]

theorem setAttr_reach (t : Nat) (chain : List Node) (p : Nat) (orc : Orc) :
    (setAttr g fuel0 c t chain 0 p orc .user).1 = c ∨
      (c.noPending = false ∧ (setAttr g fuel0 c t chain 0 p orc .user).1 = (forceAt g forceFuel c).1) := by
  rcases setAttr_user_state g c 59 t chain 0 p orc with hs | ⟨node, rest, rfl, hpend⟩
  · exact .inl hs
  · have hp : c.noPending = false := Bool.eq_false_iff.mpr fun hnp => clsGet_noPending hnp hpend
    obtain ⟨s1, hf, hnp, -⟩ := closed_force h.closed hc hp
    rw [fuel0_eq, setAttr_spec g h.setter 55 hf t rest 0 hpend, hf]
    exact .inr ⟨hp, (setAttr_user_state g s1 55 t _ 0 p orc).resolve_right
      fun ⟨_, _, _, hn⟩ => clsGet_noPending hnp hn⟩

theorem gstep_state (orc : Orc) {ev : GEvent} (hev : ev.isAccess = true) :
    (gstep g c orc ev).1 = c ∨
      (c.noPending = false ∧ (gstep g c orc ev).1 = (forceAt g forceFuel c).1) := by
  rw [gstep_fst]
  cases ev with
  | init m t => cases hev
  | read t chain p | has t chain p =>
    simp only [getAttr_reach h hc]
    exact getSpec_state ..
  | assign t chain p => exact setAttr_reach h hc t chain p orc

/-- **control closure**: from a state of R every event of the group – whatever atom, route, user
    values – leads to a state of R -/
theorem gstep_closed (orc : Orc) (ev : GEvent) (hev : ev.ok ts g) : (gstep g c orc ev).1.norm ∈ R := by
  cases hacc : ev.isAccess with
  | true =>
    rcases gstep_state h hc orc hacc with hs | ⟨hp, hs⟩
    · rwa [hs, closed_norm h.closed hc]
    · obtain ⟨s1, hf, -, hs1⟩ := closed_force h.closed hc hp
      rwa [hs, hf]
  | false =>
    cases ev with
    | init m t =>
      obtain ⟨ht, es, hm⟩ := hev
      obtain ⟨c', hr, hc'⟩ := closed_runInit h.closed hc hm ht
      simp only [gstep_fst, hr]
      exact hc'
    | _ => cases hacc

end

/-! ## what a read serves, in closed form; the decidable conditions on a group -/

/-- what `getattr` returns in control state c -/
def readVal (g : GroupCfg) (c : GS) (t : Nat) (chain : List Node) (p : Nat) (orc : Orc) : Res Val :=
  (getSpec g c (forceAt g forceFuel c).1 t chain 0 p orc).2

theorem readVal_noPending (g : GroupCfg) {c : GS} (h : c.noPending = true) (t : Nat) (chain : List Node)
    (p : Nat) (orc : Orc) : readVal g c t chain p orc = resOf (findStop g c t p orc chain 0) := by
  unfold readVal
  rw [getSpec_noPending g h]

theorem readVal_norm (g : GroupCfg) (c : GS) (t : Nat) (chain : List Node) (p : Nat) (orc : Orc) :
    readVal g c t (chain.map (normNode g)) p orc = readVal g c t chain p orc := by
  unfold readVal; rw [getSpec_norm]

theorem readVal_orcPat (g : GroupCfg) (c : GS) (t : Nat) {chain : List Node} (hch : ChainOK chain)
    (p : Nat) (orc : Orc) :
    readVal g c t chain p orc = readVal g c t chain p (orcPat (orc 0) (orc 1) (orc 2)) := by
  unfold readVal
  rw [getSpec_congr_orc g c _ t chain p orc (orcPat (orc 0) (orc 1) (orc 2))]
  intro i hi
  have := chainOK_length hch
  unfold orcPat
  match i, hi with
  | 0, _ => rfl
  | 1, _ => rfl
  | 2, _ => rfl
  | (k + 3), hi => omega

/-- outcome of `hasattr` from the outcome of the read -/
def hasOut : Res Val → Out
  | .ok _ => .bool true
  | .attrError => .bool false
  | .otherError => .otherError
  | .outOfFuel => .outOfFuel

theorem gstep_read_out {g : GroupCfg} {R : List GS} (h : Ctl ts g R) {c : GS} (hc : c ∈ R) (t : Nat)
    (chain : List Node) (p : Nat) (orc : Orc) :
    (gstep g c orc (.read t chain p)).2 = (readVal g c t chain p orc).toOut ∧
    (gstep g c orc (.has t chain p)).2 = hasOut (readVal g c t chain p orc) := by
  unfold readVal
  refine ⟨by rw [gstep, getAttr_reach h hc], ?_⟩
  rw [gstep, getAttr_reach h hc]
  generalize getSpec g c (forceAt g forceFuel c).1 t chain 0 p orc = r
  obtain ⟨s1, r⟩ := r
  cases r <;> rfl

/-- a class-level plain value is the same *value* whichever table's init run created the object -/
def Val.strip : Val → Val
  | .dflt i v _ m => .dflt i v 0 m
  | v => v

def Res.strip : Res Val → Res Val
  | .ok v => .ok v.strip
  | r => r

theorem hasOut_strip {r r' : Res Val} (h : r.strip = r'.strip) : hasOut r = hasOut r' := by
  cases r <;> cases r' <;> simp [Res.strip] at h <;> rfl

/-- every control state of R serves, for every atom profile and attribute of the group, what the
    initial state (a fresh interpreter) serves on the public table -/
def publicSame (g : GroupCfg) (R : List GS) : Bool :=
  R.all fun c => (chainsOf g).all fun ch => g.attrs.all fun p =>
    decide ((readVal g c 0 ch p noUser).strip = (readVal g g.initGS 0 ch p noUser).strip)

/-- no loader stores a module-level mutable object by reference -/
def noShared (g : GroupCfg) : Bool :=
  g.inits.all fun mi => mi.2.all fun e =>
    match e with
    | .instWrite _ _ _ sh => !sh
    | _ => true

/-- the condition of C09 on one group: the accessors are `clearprops(); loader(); get / set`,
    `reach` is closed, and every state of it serves the public values of a fresh interpreter -/
def SafeG (ts : List Nat) (g : GroupCfg) : Bool :=
  decide (g.getter = [.clear, .load, .get]) && decide (g.setter = [.clear, .load, .set]) &&
  closed ts g (reach ts g) && publicSame g (reach ts g)

/-- values compared on the chains of `chainsOf` agree on every well-formed chain: a read does not
    tell a chain from its normal form -/
theorem readVal_sweep {g : GroupCfg} {c c' : GS} {t t' p : Nat} {orc : Orc}
    (h : ∀ ch ∈ chainsOf g, (readVal g c t ch p orc).strip = (readVal g c' t' ch p orc).strip)
    {chain : List Node} (hch : ChainOK chain) :
    (readVal g c t chain p orc).strip = (readVal g c' t' chain p orc).strip := by
  have := h _ (norm_mem_chainsOf g hch)
  rwa [readVal_norm, readVal_norm] at this

theorem publicSame_at {g : GroupCfg} {R : List GS} (h : publicSame g R = true) {c : GS} (hc : c ∈ R)
    {chain : List Node} (hch : ChainOK chain) {p : Nat} (hp : p ∈ g.attrs) :
    (readVal g c 0 chain p noUser).strip = (readVal g g.initGS 0 chain p noUser).strip := by
  simp only [publicSame, List.all_eq_true, decide_eq_true_eq] at h
  exact readVal_sweep (fun ch hm => h c hc ch hm p hp) hch

theorem sharedEff_false {g : GroupCfg} (h : noShared g = true) (i k : Nat) : g.sharedEff i k = false := by
  unfold GroupCfg.sharedEff
  cases he : g.eff? i k with
  | none => rfl
  | some e =>
    cases e with
    | instWrite c p sel sh =>
      obtain ⟨es, hes, hk⟩ := eff?_mem he
      simp only [noShared, List.all_eq_true] at h
      simpa using h _ hes _ (List.mem_of_getElem? hk)
    | _ => rfl

/-! ## private tables -/

def privTables : List Nat := [1, 2]

/-- public table and up to two private tables -/
def tables3 : List Nat := [0, 1, 2]

/-- control state after the group's loader init has run on table t -/
def afterInit (g : GroupCfg) (c : GS) (t : Nat) : GS := (runInit g fuel0 c g.loader t).1.norm

/-- from every control state of R: run the loader's init on a private table; that table then
    serves, for every atom profile and attribute, what a fresh interpreter serves publicly -/
def privateSame (g : GroupCfg) (R : List GS) : Bool :=
  R.all fun c => privTables.all fun t => (chainsOf g).all fun ch => g.attrs.all fun p =>
    decide ((readVal g (afterInit g c t) t ch p noUser).strip = (readVal g g.initGS 0 ch p noUser).strip)

theorem privateSame_at {g : GroupCfg} {R : List GS} (h : privateSame g R = true) {c : GS} (hc : c ∈ R)
    {t : Nat} (ht : t ∈ privTables) {chain : List Node} (hch : ChainOK chain) {p : Nat} (hp : p ∈ g.attrs) :
    (readVal g (afterInit g c t) t chain p noUser).strip = (readVal g g.initGS 0 chain p noUser).strip := by
  simp only [privateSame, List.all_eq_true, decide_eq_true_eq] at h
  exact readVal_sweep (fun ch hm => h c hc t ht ch hm p hp) hch

/-- the guard name of the group's loader init, if it has one -/
def loaderGuard (g : GroupCfg) : Option Nat :=
  match g.effsOf g.loader with
  | some (.guard n :: _) => some n
  | _ => none

/-- has the group's loader init run on table t?  (its guard is in `t.properties`; for an init
    without a guard: all its per-instance writes have run on t) -/
def inited (g : GroupCfg) (c : GS) (t : Nat) : Bool :=
  match loaderGuard g with
  | some n => c.props.contains (t, n)
  | none => (g.writesOf g.loader).all fun mk => c.effs.contains (t, mk.1, mk.2)

/-- in every control state of R in which the loader init has run on a private table, that table
    serves, for every atom profile and attribute, what a fresh interpreter serves publicly -/
def privateSame2 (g : GroupCfg) (R : List GS) : Bool :=
  R.all fun c => privTables.all fun t => !inited g c t ||
    ((chainsOf g).all fun ch => g.attrs.all fun p =>
      decide ((readVal g c t ch p noUser).strip = (readVal g g.initGS 0 ch p noUser).strip))

theorem privateSame2_at {g : GroupCfg} {R : List GS} (h : privateSame2 g R = true) {c : GS} (hc : c ∈ R)
    {t : Nat} (ht : t ∈ privTables) (hin : inited g c t = true) {chain : List Node} (hch : ChainOK chain)
    {p : Nat} (hp : p ∈ g.attrs) :
    (readVal g c t chain p noUser).strip = (readVal g g.initGS 0 chain p noUser).strip := by
  simp only [privateSame2, List.all_eq_true, Bool.or_eq_true, decide_eq_true_eq] at h
  have hyes := (h c hc t ht).resolve_left (by simp [hin])
  exact readVal_sweep (fun ch hm => hyes ch hm p hp) hch

/-! ## the forced load, seen from every table -/

/-- for every control state of R with something pending: on every table, for every atom profile,
    user-value pattern and attribute, a read serves the same before and after the forced load -/
def forceSame (ts : List Nat) (g : GroupCfg) (R : List GS) : Bool :=
  R.all fun c => c.noPending ||
    (ts.all fun t => (chainsOf g).all fun ch => orcPats.all fun orc => g.attrs.all fun p =>
      decide ((readVal g c t ch p orc).strip =
        (readVal g (forceAt g forceFuel c).1.norm t ch p orc).strip))

theorem forceSame_at {g : GroupCfg} {R : List GS} (h : forceSame ts g R = true) {c : GS} (hc : c ∈ R)
    (hp : c.noPending = false) {t : Nat} (ht : t ∈ ts) {chain : List Node} (hch : ChainOK chain)
    {p : Nat} (hpa : p ∈ g.attrs) (orc : Orc) :
    (readVal g c t chain p orc).strip = (readVal g (forceAt g forceFuel c).1.norm t chain p orc).strip := by
  simp only [forceSame, List.all_eq_true, Bool.or_eq_true, decide_eq_true_eq] at h
  have hyes := (h c hc).resolve_left (by simp [hp])
  rw [readVal_orcPat g c t hch p orc, readVal_orcPat g (forceAt g forceFuel c).1.norm t hch p orc]
  exact readVal_sweep (fun ch hm => hyes t ht ch hm _ (orcPat_mem_orcPats (orc 0) (orc 1) (orc 2)) p hpa) hch

def TraceItem.table : TraceItem → Nat
  | .wrote t _ _ => t
  | .delAttr t _ => t

/-- the forced load only writes instance attributes of the public table -/
def forceTraceOK (g : GroupCfg) (R : List GS) : Bool :=
  R.all fun c => c.noPending || (forceAt g forceFuel c).1.trace.all fun it => it.table == 0

theorem access_trace_public {g : GroupCfg} {R : List GS} (h : Ctl ts g R)
    (htr : forceTraceOK g R = true) {c : GS} (hc : c ∈ R) (orc : Orc)
    {ev : GEvent} (hev : ev.isAccess = true) : ∀ it ∈ (gstep g c orc ev).1.trace, it.table = 0 := by
  rcases gstep_state h hc orc hev with hs | ⟨hp, hs⟩
  · rw [hs, (closed_at h.closed hc).1]
    intro _ hit
    cases hit
  · rw [hs]
    simp only [forceTraceOK, List.all_eq_true, Bool.or_eq_true, beq_iff_eq] at htr
    exact (htr c hc).resolve_left (by simp [hp])

/-! ## the conditions on a configuration -/

def SafeCfg (ts : List Nat) (cfg : Config) : Bool := cfg.groups.all (SafeG ts)

theorem safeCfg_at {cfg : Config} (h : SafeCfg ts cfg = true) {gi : Nat} {g : GroupCfg}
    (hg : cfg.groups[gi]? = some g) : Ctl ts g (reach ts g) ∧ publicSame g (reach ts g) = true := by
  have := List.all_eq_true.mp h g (List.mem_of_getElem? hg)
  simp only [SafeG, Bool.and_eq_true, decide_eq_true_eq] at this
  exact ⟨⟨this.1.1.1, this.1.1.2, this.1.2⟩, this.2⟩

/-- no loader of the configuration stores a module-level mutable object by reference -/
def NoSharedCfg (cfg : Config) : Prop := ∀ g ∈ cfg.groups, noShared g = true

/-- the first of three levels (what `SafeIso2` and `SafeIso3` add is said there): `SafeCfg` plus
    "a freshly initialised private table serves the public values", "every registered loader is
    one of the group's inits" and "no loader stores a module-level mutable object by reference" -/
def SafeIso (ts : List Nat) (cfg : Config) : Bool :=
  SafeCfg ts cfg && cfg.groups.all fun g =>
    privateSame g (reach ts g) && (g.effsOf g.loader).isSome && noShared g

theorem safeIso_at {cfg : Config} (h : SafeIso ts cfg = true) :
    SafeCfg ts cfg = true ∧ (∀ g ∈ cfg.groups, privateSame g (reach ts g) = true) ∧
    (∀ g ∈ cfg.groups, (g.effsOf g.loader).isSome = true) ∧ NoSharedCfg cfg := by
  simp only [SafeIso, Bool.and_eq_true, List.all_eq_true] at h
  exact ⟨h.1, fun g hg => (h.2 g hg).1.1, fun g hg => (h.2 g hg).1.2, fun g hg => (h.2 g hg).2⟩

/-- `SafeIso` plus the state-based form of "an initialised private table serves the public values" -/
def SafeIso2 (ts : List Nat) (cfg : Config) : Bool :=
  SafeIso ts cfg && cfg.groups.all fun g => privateSame2 g (reach ts g)

theorem safeIso2_at {cfg : Config} (h : SafeIso2 ts cfg = true) :
    SafeIso ts cfg = true ∧ ∀ g ∈ cfg.groups, privateSame2 g (reach ts g) = true := by
  simpa only [SafeIso2, Bool.and_eq_true, List.all_eq_true] using h

/-- `SafeIso2` plus: a forced load is invisible on every table (`forceSame`) and writes instance
    attributes of the public table only (`forceTraceOK`) – what isolation between tables needs -/
def SafeIso3 (ts : List Nat) (cfg : Config) : Bool :=
  SafeIso2 ts cfg && cfg.groups.all fun g =>
    forceSame ts g (reach ts g) && forceTraceOK g (reach ts g)

/-- in every group a forced load is invisible on every table and writes instance attributes of the
    public table only -/
def ForceCfg (ts : List Nat) (cfg : Config) : Prop :=
  ∀ g ∈ cfg.groups, forceSame ts g (reach ts g) = true ∧ forceTraceOK g (reach ts g) = true

theorem safeIso3_at {cfg : Config} (h : SafeIso3 ts cfg = true) : SafeIso2 ts cfg = true ∧ ForceCfg ts cfg := by
  simpa only [SafeIso3, ForceCfg, Bool.and_eq_true, List.all_eq_true] using h

end PtLazy
