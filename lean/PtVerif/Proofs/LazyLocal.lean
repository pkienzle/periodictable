import PtVerif.Proofs.LazyGroup
/-! Locality of reads: a lookup of `p` on table `t` consults, for each object of the chain, only
the class entry and the instance data of that object (`GS.sees`), so two control states with the
same view of a table serve the same on it.  On a concrete configuration the sweeps over all chains
in `SafeCfg` / `SafeIso3` then reduce to comparisons of views (`safeCfg_of_local`,
`safeIso3_of_local`), with the sweeps themselves as the fallback group by group. -/
namespace PtLazy

def CAttr.strip : CAttr → CAttr
  | .plain i v _ => .plain i v 0
  | a => a

def Look.strip : Look → Look
  | .val v => .val v.strip
  | l => l

/-- everything a lookup of `p` on table `t` consults about the object `n` -/
def GS.sees (g : GroupCfg) (s : GS) (t p : Nat) (n : Node) : Option CAttr × Option (Nat × Nat) :=
  ((s.clsGet n.cls p).map CAttr.strip, s.instData g t n p)

theorem look_sees {g : GroupCfg} {s s' : GS} {t t' p : Nat} {n : Node}
    (h : s.sees g t p n = s'.sees g t' p n) (u : Bool) (pos : Nat) :
    (look g s t p u pos n).strip = (look g s' t' p u pos n).strip := by
  obtain ⟨hc, hi⟩ := Prod.mk.inj h
  unfold look
  rw [← hi]
  generalize s.clsGet n.cls p = a at hc
  generalize s'.clsGet n.cls p = a' at hc
  rcases a with _ | (_ | _ | _) <;> rcases a' with _ | (_ | _ | _) <;> cases hc
  all_goals cases u <;> cases s.instData g t n p <;> rfl

def Stop.strip : Stop → Stop
  | .val v => .val v.strip
  | st => st

theorem resOf_strip (st : Stop) : (resOf st).strip = resOf st.strip := by
  cases st <;> rfl

theorem findStop_sees {g : GroupCfg} {s s' : GS} {t t' p : Nat} (orc : Orc) :
    ∀ (chain : List Node) (pos : Nat), (∀ n ∈ chain, s.sees g t p n = s'.sees g t' p n) →
      (findStop g s t p orc chain pos).strip = (findStop g s' t' p orc chain pos).strip := by
  intro chain
  induction chain with
  | nil => intro _ _; rfl
  | cons n rest ih =>
    intro pos h
    have hl := look_sees (h n (List.mem_cons_self ..)) (orc pos) pos
    have ih' := ih (pos + 1) (fun m hm => h m (List.mem_cons_of_mem _ hm))
    rw [findStop_cons, findStop_cons]
    cases hs : look g s t p (orc pos) pos n <;> cases hs' : look g s' t' p (orc pos) pos n <;>
      simp only [hs, hs', Look.strip, reduceCtorEq, Look.val.injEq] at hl
    · rfl
    · simp only [Stop.strip, hl]
    · cases n.cls.delegates <;> first | rfl | exact ih'

/-- the walk that switches from `c` to the loaded state `f` at the first delayed-load property
    agrees with the walk in `f` alone, if every object before that property looks the same in both -/
theorem getSpec_sees {g : GroupCfg} {c f : GS} {t p : Nat} (orc : Orc) :
    ∀ (chain : List Node) (pos : Nat),
      (∀ n ∈ chain, c.clsGet n.cls p = some .pending ∨ c.sees g t p n = f.sees g t p n) →
      (getSpec g c f t chain pos p orc).2.strip = (resOf (findStop g f t p orc chain pos)).strip := by
  intro chain
  induction chain with
  | nil => intro _ _; rfl
  | cons n rest ih =>
    intro pos h
    have hsee : look g c t p (orc pos) pos n ≠ .pend →
        (look g c t p (orc pos) pos n).strip = (look g f t p (orc pos) pos n).strip := fun hl =>
      look_sees ((h n (List.mem_cons_self ..)).resolve_left fun hp => hl (look_pend_iff.mpr hp)) (orc pos) pos
    rw [getSpec_cons]
    cases hl : look g c t p (orc pos) pos n with
    | pend => rfl
    | val v =>
      rw [hl] at hsee
      have := hsee (fun h => by cases h)
      rw [findStop_cons g f]
      cases hl' : look g f t p (orc pos) pos n <;> simp only [hl', Look.strip, reduceCtorEq, Look.val.injEq] at this
      simp only [resOf, Res.strip, this]
    | pass =>
      rw [hl] at hsee
      have := hsee (fun h => by cases h)
      rw [findStop_cons g f]
      cases hl' : look g f t p (orc pos) pos n <;> simp only [hl', Look.strip, reduceCtorEq] at this
      cases n.cls.delegates
      · rfl
      · exact ih (pos + 1) (fun m hm => h m (List.mem_cons_of_mem _ hm))

/-! ## the isolation conditions from the few distinct views of the reachable control states -/

/-- the objects that the chains of `chainsOf` are made of -/
def allNodes (g : GroupCfg) : List Node := GroupCfg.clsOrder.flatMap (nodesOf g)

theorem mem_allNodes {g : GroupCfg} {c : Cls} {n : Node} (h : n ∈ nodesOf g c) : n ∈ allNodes g :=
  List.mem_flatMap.mpr ⟨c, by cases c <;> simp [GroupCfg.clsOrder], h⟩

theorem chainsOf_nodes {g : GroupCfg} {ch : List Node} (h : ch ∈ chainsOf g) : ∀ n ∈ ch, n ∈ allNodes g := by
  simp only [chainsOf, List.mem_append, List.mem_map, List.mem_flatMap] at h
  rcases h with ((⟨e, he, rfl⟩ | ⟨i, hi, e, he, rfl⟩) | ⟨i, hi, e, he, rfl⟩) | ⟨m, hm, i, hi, e, he, rfl⟩ <;>
    simp only [List.mem_cons, List.not_mem_nil, or_false, forall_eq_or_imp, forall_eq] <;>
    first
    | exact mem_allNodes he
    | exact ⟨mem_allNodes hi, mem_allNodes he⟩
    | exact ⟨mem_allNodes hm, mem_allNodes hi, mem_allNodes he⟩

/-- what the reads on table `t` can tell about a control state -/
def GS.view (s : GS) (t : Nat) : List ((Cls × Nat) × CAttr) × List (Nat × Nat) :=
  (s.cls.map fun e => (e.1, e.2.strip), (s.effs.filter (·.1 = t)).map (·.2))

theorem sees_of_view {g : GroupCfg} {s s' : GS} {t t' : Nat} (h : s.view t = s'.view t') (p : Nat)
    (n : Node) : s.sees g t p n = s'.sees g t' p n := by
  obtain ⟨hc, he⟩ := Prod.mk.inj h
  have h1 : ∀ (s : GS), (s.clsGet n.cls p).map CAttr.strip =
      ((s.cls.map fun e => (e.1, e.2.strip)).find? (fun e => e.1 = (n.cls, p))).map (·.2) := by
    intro s
    simp only [GS.clsGet, Option.map_map, Function.comp_def, List.find?_map]
  have h2 : ∀ (s : GS) (t : Nat), s.instData g t n p =
      ((s.effs.filter (·.1 = t)).map (·.2)).find? (fun ik => n.rows.contains ik &&
        match g.eff? ik.1 ik.2 with
        | some (.instWrite c p' _ _) => c = n.cls && p' = p
        | _ => false) := by
    intro s t
    simp only [GS.instData, Bool.and_assoc, List.find?_map, List.find?_filter, Bool.decide_and,
      Bool.decide_eq_true]
    rfl
  unfold GS.sees
  rw [h1, h1, hc, h2, h2, he]

/-- the control state after the first touch in a fresh interpreter -/
def GroupCfg.loaded (g : GroupCfg) : GS := (forceAt g forceFuel g.initGS).1

/-- nothing pending: the public table and every initialised private table look like the public
    table after the first touch; something pending: no private table counts as initialised -/
def viewsOK (ts : List Nat) (g : GroupCfg) (R : List GS) : Bool :=
  R.all fun c =>
    if c.noPending then ts.all fun t => (t != 0 && !inited g c t) || decide (c.view t = g.loaded.view 0)
    else privTables.all fun t => !inited g c t

/-- the loader's init leaves a private table initialised (phrased over `g.inits` as in `succs`, so
    that the kernel meets the runs it has already evaluated for `reach`) -/
def afterInitOK (g : GroupCfg) (R : List GS) : Bool :=
  R.all fun c => g.inits.all fun mi => privTables.all fun t =>
    mi.1 != g.loader || inited g (runInit g fuel0 c mi.1 t).1.norm t

/-- every object either carries the delayed-load property or looks the same after the forced load -/
def forceLocal (ts : List Nat) (g : GroupCfg) (R : List GS) : Bool :=
  R.all fun c => c.noPending || ts.all fun t => g.attrs.all fun p => (allNodes g).all fun n =>
    decide (c.clsGet n.cls p = some .pending) ||
      decide (c.sees g t p n = (forceAt g forceFuel c).1.sees g t p n)

theorem readVal_normState (g : GroupCfg) {s : GS} (h : s.noPending = true) (t : Nat) (chain : List Node)
    (p : Nat) (orc : Orc) :
    (readVal g s.norm t chain p orc).strip = (resOf (findStop g s t p orc chain 0)).strip := by
  rw [readVal_noPending g (c := s.norm) h, resOf_strip, resOf_strip]
  exact congrArg resOf (findStop_sees orc chain 0 fun _ _ => rfl)

theorem forceSame_of_local {ts : List Nat} {g : GroupCfg} {R : List GS} (hcl : closed ts g R = true)
    (h : forceLocal ts g R = true) : forceSame ts g R = true := by
  simp only [forceSame, forceLocal, List.all_eq_true, Bool.or_eq_true, decide_eq_true_eq] at h ⊢
  intro c hc
  cases hp : c.noPending with
  | true => exact .inl rfl
  | false =>
    refine .inr fun t ht ch hch orc _ p hpa => ?_
    obtain ⟨s1, hf, hnp, -⟩ := closed_force hcl hc hp
    have hloc := (h c hc).resolve_left (by simp [hp]) t ht p hpa
    rw [hf] at hloc ⊢
    rw [readVal_normState g hnp]
    unfold readVal
    rw [hf]
    exact getSpec_sees orc ch 0 fun n hn => hloc n (chainsOf_nodes hch n hn)

theorem readVal_force {ts : List Nat} {g : GroupCfg} {R : List GS} (hforce : forceSame ts g R = true)
    (h0 : 0 ∈ ts) {c : GS} (hc : c ∈ R) (hp : c.noPending = false) {ch : List Node}
    (hch : ch ∈ chainsOf g) {p : Nat} (hpa : p ∈ g.attrs) :
    (readVal g c 0 ch p noUser).strip = (readVal g (forceAt g forceFuel c).1.norm 0 ch p noUser).strip := by
  simp only [forceSame, List.all_eq_true, Bool.or_eq_true, decide_eq_true_eq] at hforce
  have := (hforce c hc).resolve_left (by simp [hp]) 0 h0 ch hch _ (orcPat_mem_orcPats false false false) p hpa
  rwa [orcPat_false] at this

section views
variable {ts : List Nat} {g : GroupCfg} {R : List GS} (hcl : closed ts g R = true)
  (hforce : forceSame ts g R = true) (h0 : 0 ∈ ts) (hpend : g.initGS.noPending = false)
  (hv : viewsOK ts g R = true)
include hcl hforce h0 hpend

theorem serves_loaded {c : GS} (hc : c.noPending = true) {t : Nat}
    (hview : c.view t = g.loaded.view 0) {ch : List Node} (hch : ch ∈ chainsOf g) {p : Nat}
    (hpa : p ∈ g.attrs) :
    (readVal g c t ch p noUser).strip = (readVal g g.initGS 0 ch p noUser).strip := by
  obtain ⟨s1, hf, hnp, -⟩ := closed_force hcl (closed_init hcl) hpend
  rw [readVal_force hforce h0 (closed_init hcl) hpend hch hpa, hf, readVal_normState g hnp,
    readVal_noPending g hc, resOf_strip, resOf_strip]
  have : g.loaded = s1 := by unfold GroupCfg.loaded; rw [hf]
  rw [this] at hview
  exact congrArg resOf (findStop_sees noUser ch 0 fun n _ => sees_of_view hview p n)

include hv

theorem viewsOK_at {c : GS} (hc : c ∈ R) {t : Nat} (ht : t ∈ ts) (hin : t = 0 ∨ inited g c t = true)
    {ch : List Node} (hch : ch ∈ chainsOf g) {p : Nat} (hpa : p ∈ g.attrs)
    (hnp : c.noPending = true ∨ t ∈ privTables) :
    (readVal g c t ch p noUser).strip = (readVal g g.initGS 0 ch p noUser).strip := by
  have := List.all_eq_true.mp hv c hc
  cases hp : c.noPending with
  | true =>
    rw [hp, if_pos rfl] at this
    simp only [List.all_eq_true, Bool.or_eq_true, Bool.and_eq_true, bne_iff_ne,
      decide_eq_true_eq] at this
    refine serves_loaded hcl hforce h0 hpend hp ((this t ht).resolve_left fun h => ?_) hch hpa
    rcases hin with rfl | hin
    · exact h.1 rfl
    · rw [hin] at h; cases h.2
  | false =>
    rw [hp] at this hnp
    simp only [Bool.false_eq_true, if_false, false_or, List.all_eq_true, Bool.not_eq_true'] at this hnp
    rcases hin with rfl | hin
    · simp [privTables] at hnp
    · rw [this t hnp] at hin; cases hin

theorem publicSame_of_views : publicSame g R = true := by
  simp only [publicSame, List.all_eq_true, decide_eq_true_eq]
  intro c hc ch hch p hpa
  cases hp : c.noPending with
  | true => exact viewsOK_at hcl hforce h0 hpend hv hc h0 (.inl rfl) hch hpa (.inl hp)
  | false =>
    obtain ⟨s1, hf, hnp, hs1⟩ := closed_force hcl hc hp
    rw [readVal_force hforce h0 hc hp hch hpa, hf]
    exact viewsOK_at hcl hforce h0 hpend hv hs1 h0 (.inl rfl) hch hpa (.inl hnp)

theorem privateSame2_of_views (hpriv : ∀ t ∈ privTables, t ∈ ts) : privateSame2 g R = true := by
  simp only [privateSame2, List.all_eq_true, decide_eq_true_eq, Bool.or_eq_true]
  intro c hc t ht
  cases hin : inited g c t with
  | false => exact .inl rfl
  | true => exact .inr fun ch hch p hpa =>
      viewsOK_at hcl hforce h0 hpend hv hc (hpriv t ht) (.inr hin) hch hpa (.inr ht)

theorem privateSame_of_views (hpriv : ∀ t ∈ privTables, t ∈ ts) (hl : (g.effsOf g.loader).isSome = true)
    (ha : afterInitOK g R = true) : privateSame g R = true := by
  simp only [privateSame, List.all_eq_true, decide_eq_true_eq]
  intro c hc t ht ch hch p hpa
  simp only [afterInitOK, List.all_eq_true, Bool.or_eq_true, bne_iff_ne] at ha
  obtain ⟨es, hes⟩ := Option.isSome_iff_exists.mp hl
  have hes := effsOf_mem hes
  obtain ⟨c', hr, hc'⟩ := closed_runInit hcl hc hes (hpriv t ht)
  have hin : inited g (afterInit g c t) t = true := (ha c hc _ hes t ht).resolve_left (fun h => h rfl)
  have : afterInit g c t = c'.norm := by unfold afterInit; rw [hr]
  rw [this] at hin ⊢
  exact viewsOK_at hcl hforce h0 hpend hv hc' (hpriv t ht) (.inr hin) hch hpa (.inr ht)

end views

/-- everything `SafeIso3` asks of one group -/
def IsoG (ts : List Nat) (g : GroupCfg) : Bool :=
  SafeG ts g && privateSame g (reach ts g) && (g.effsOf g.loader).isSome && noShared g &&
  privateSame2 g (reach ts g) && forceSame ts g (reach ts g) && forceTraceOK g (reach ts g)

theorem safeIso3_iff {ts : List Nat} {cfg : Config} :
    SafeIso3 ts cfg = true ↔ ∀ g ∈ cfg.groups, IsoG ts g = true := by
  simp only [SafeIso3, SafeIso2, SafeIso, SafeCfg, IsoG, Bool.and_eq_true, List.all_eq_true,
    ← forall_and, and_assoc]

/-- the same conditions, read off the views of the reachable control states: the sweeps over all
    chains in `publicSame`, `privateSame`, `privateSame2` and `forceSame` are replaced by
    comparisons of views -/
def LocalG (ts : List Nat) (g : GroupCfg) : Bool :=
  decide (g.getter = [.clear, .load, .get]) && decide (g.setter = [.clear, .load, .set]) &&
  closed ts g (reach ts g) && (g.effsOf g.loader).isSome && noShared g && !g.initGS.noPending &&
  forceTraceOK g (reach ts g) && forceLocal ts g (reach ts g) && viewsOK ts g (reach ts g) &&
  afterInitOK g (reach ts g)

theorem isoG_of_local {ts : List Nat} {g : GroupCfg} (h0 : 0 ∈ ts) (hpriv : ∀ t ∈ privTables, t ∈ ts)
    (h : LocalG ts g = true) : IsoG ts g = true := by
  simp only [LocalG, IsoG, SafeG, Bool.and_eq_true, Bool.not_eq_true'] at h ⊢
  -- the conjuncts of `LocalG`, then those of `IsoG`, each in the order of its definition: the
  -- four sweeps come from the views, the rest is handed over
  obtain ⟨⟨⟨⟨⟨⟨⟨⟨⟨hget, hset⟩, hcl⟩, hl⟩, hns⟩, hpend⟩, htr⟩, hloc⟩, hv⟩, ha⟩ := h
  have hforce := forceSame_of_local hcl hloc
  exact ⟨⟨⟨⟨⟨⟨⟨⟨⟨hget, hset⟩, hcl⟩, publicSame_of_views hcl hforce h0 hpend hv⟩,
    privateSame_of_views hcl hforce h0 hpend hv hpriv hl ha⟩, hl⟩, hns⟩,
    privateSame2_of_views hcl hforce h0 hpend hv hpriv⟩, hforce⟩, htr⟩

/-- `SafeIso3` from the views: what is proved is that the hypothesis implies it.  `LocalG` is
    sufficient, not necessary (reads need not be local for a group to be safe), so a group that
    fails it is put to `IsoG`, which is all that `SafeIso3` asks of one group (`safeIso3_iff`).
    Conversely, if `SafeIso3` holds then by `safeIso3_iff` every group passes `IsoG`, so the
    hypothesis holds: it is satisfied exactly when `SafeIso3` is, and evaluating it accepts the
    same configurations. -/
theorem safeIso3_of_local {ts : List Nat} {cfg : Config} (h0 : 0 ∈ ts) (hpriv : ∀ t ∈ privTables, t ∈ ts)
    (h : (cfg.groups.all fun g => LocalG ts g || IsoG ts g) = true) : SafeIso3 ts cfg = true := by
  simp only [List.all_eq_true, Bool.or_eq_true] at h
  exact safeIso3_iff.mpr fun g hg => (h g hg).elim (isoG_of_local h0 hpriv) id

/-- the conditions of `SafeG`, with the sweep of `publicSame` replaced by comparisons of views -/
def LocalPubG (ts : List Nat) (g : GroupCfg) : Bool :=
  decide (g.getter = [.clear, .load, .get]) && decide (g.setter = [.clear, .load, .set]) &&
  closed ts g (reach ts g) && !g.initGS.noPending && forceLocal ts g (reach ts g) &&
  viewsOK ts g (reach ts g)

/-- the same for `SafeCfg`, which is `SafeG` of every group: the hypothesis implies it, and
    conversely holds whenever `SafeCfg` does, through its second disjunct -/
theorem safeCfg_of_local {ts : List Nat} {cfg : Config} (h0 : 0 ∈ ts)
    (h : (cfg.groups.all fun g => LocalPubG ts g || SafeG ts g) = true) : SafeCfg ts cfg = true := by
  simp only [List.all_eq_true, Bool.or_eq_true] at h
  refine List.all_eq_true.mpr fun g hg => (h g hg).elim (fun hl => ?_) id
  simp only [LocalPubG, SafeG, Bool.and_eq_true, Bool.not_eq_true'] at hl ⊢
  obtain ⟨⟨⟨⟨⟨hget, hset⟩, hcl⟩, hpend⟩, hloc⟩, hv⟩ := hl
  exact ⟨⟨⟨hget, hset⟩, hcl⟩, publicSame_of_views hcl (forceSame_of_local hcl hloc) h0 hpend hv⟩

end PtLazy
