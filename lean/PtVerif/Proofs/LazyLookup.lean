import PtVerif.Model.Lazy
/-! Attribute lookup (C09, C10): what one object of the delegation chain contributes to a lookup;
once nothing is pending, reads are pure; a read that meets a pending property equals "force, then
read purely"; a read only depends on the class of each object and on which write effects select
it, so values can be checked over a finite alphabet of chains. -/
namespace PtLazy

/-! ## the walk, one object at a time -/

def GS.noPending (s : GS) : Bool := s.cls.all (fun e => decide (e.2 ≠ CAttr.pending))

theorem clsGet_noPending {s : GS} (h : s.noPending = true) {c : Cls} {p : Nat} :
    s.clsGet c p ≠ some .pending := by
  intro hc
  unfold GS.clsGet at hc
  cases hf : s.cls.find? (fun e => e.1 = (c, p)) with
  | none => simp [hf] at hc
  | some e =>
    simp only [hf, Option.map_some, Option.some.injEq] at hc
    have := List.all_eq_true.mp h e (List.mem_of_find?_eq_some hf)
    simp only [decide_eq_true_eq] at this
    exact this hc

theorem effsOf_mem {g : GroupCfg} {m : Nat} {es : List Eff} (h : g.effsOf m = some es) : (m, es) ∈ g.inits := by
  unfold GroupCfg.effsOf at h
  cases hf : g.inits.find? (fun x => x.1 = m) with
  | none => simp [hf] at h
  | some mi =>
    have hi := List.find?_some hf
    simp only [decide_eq_true_eq] at hi
    simp only [hf, Option.map_some, Option.some.injEq] at h
    rw [← hi, ← h]
    exact List.mem_of_find?_eq_some hf

theorem eff?_mem {g : GroupCfg} {i k : Nat} {e : Eff} (h : g.eff? i k = some e) :
    ∃ es, (i, es) ∈ g.inits ∧ es[k]? = some e := by
  unfold GroupCfg.eff? at h
  cases hes : g.effsOf i with
  | none => simp [hes] at h
  | some es => exact ⟨es, effsOf_mem hes, by simpa [hes] using h⟩

/-- what one object of the chain contributes to a lookup -/
inductive Look
  | pend            -- its class carries the delayed-load property
  | val (v : Val)   -- the lookup ends here
  | pass            -- nothing here: `__getattr__`, if the class has one

def look (g : GroupCfg) (s : GS) (t p : Nat) (u : Bool) (pos : Nat) (n : Node) : Look :=
  match s.clsGet n.cls p with
  | some .pending => .pend
  | some (.desc i k) => .val (.computed i k pos)
  | c =>
    if u then .val (.user pos)
    else
      match s.instData g t n p with
      | some (i, k) => .val (.data i k [])
      | none =>
        match c with
        | some (.plain i v t') => .val (.dflt i v t' [])
        | _ => .pass

theorem findStop_cons (g : GroupCfg) (s : GS) (t p : Nat) (orc : Orc) (n : Node) (rest : List Node)
    (pos : Nat) :
    findStop g s t p orc (n :: rest) pos =
      match look g s t p (orc pos) pos n with
      | .pend => .pendingAt pos
      | .val v => .val v
      | .pass => if n.cls.delegates then findStop g s t p orc rest (pos + 1) else .fail := by
  unfold look
  rw [findStop]
  generalize s.clsGet n.cls p = a
  rcases a with _ | (_ | _ | _) <;> cases orc pos <;> try rfl
  all_goals rcases s.instData g t n p with _ | ⟨i, k⟩ <;> rfl

theorem look_pend_iff {g : GroupCfg} {s : GS} {t p : Nat} {u : Bool} {pos : Nat} {n : Node} :
    look g s t p u pos n = .pend ↔ s.clsGet n.cls p = some .pending := by
  unfold look
  generalize s.clsGet n.cls p = a
  rcases a with _ | (_ | _ | _) <;> cases u <;> try simp
  all_goals rcases s.instData g t n p with _ | ⟨i, k⟩ <;> simp

theorem findStop_noPending {g : GroupCfg} {s : GS} (h : s.noPending = true) {t p : Nat} {orc : Orc} {j : Nat} :
    ∀ {chain : List Node} {pos : Nat}, findStop g s t p orc chain pos ≠ .pendingAt j := by
  intro chain
  induction chain with
  | nil => intro pos hc; cases hc
  | cons n rest ih =>
    intro pos
    rw [findStop_cons]
    cases hl : look g s t p (orc pos) pos n with
    | pend => exact absurd (look_pend_iff.mp hl) (clsGet_noPending h)
    | val v => intro hc; cases hc
    | pass =>
      cases n.cls.delegates
      · intro hc; cases hc
      · exact ih

theorem findStop_pendingAt_le {g : GroupCfg} {s : GS} {t p : Nat} {orc : Orc} {j : Nat} :
    ∀ {chain : List Node} {pos : Nat}, findStop g s t p orc chain pos = .pendingAt j → pos ≤ j := by
  intro chain
  induction chain with
  | nil => intro pos h; cases h
  | cons n rest ih =>
    intro pos h
    rw [findStop_cons] at h
    split at h
    · cases h; exact Nat.le_refl _
    · cases h
    · split at h
      · exact Nat.le_of_succ_le (ih h)
      · cases h

/-! ## reads in closed form -/

/-- the result of a walk that runs no getter.  Used where nothing is pending (`findStop_noPending`);
    the value at `pendingAt` is arbitrary. -/
def resOf : Stop → Res Val
  | .val v => .ok v
  | .fail => .attrError
  | .pendingAt _ => .outOfFuel

theorem getAttr_noPending (g : GroupCfg) {s : GS} (h : s.noPending = true) (f t : Nat)
    (chain : List Node) (pos p : Nat) (orc : Orc) :
    getAttr g (f + 1) s t chain pos p orc = (s, resOf (findStop g s t p orc chain pos)) := by
  unfold getAttr
  cases hfs : findStop g s t p orc chain pos with
  | val v => rfl
  | fail => rfl
  | pendingAt j => exact absurd hfs (findStop_noPending h)

/-- the first two statements of the delayed-load getter / setter: `clearprops(); loader()` -/
def forceAt (g : GroupCfg) (fuel : Nat) (s : GS) : GS × Res Unit :=
  match clearprops g s with
  | (s1, .ok _) => runInit g fuel s1 g.loader 0
  | (s1, .attrError) => (s1, .attrError)
  | (s1, _) => (s1, .otherError)

theorem runAcc_force (g : GroupCfg) {s s1 : GS} (f : Nat) (hf : forceAt g (f + 2) s = (s1, .ok ()))
    (more : List AccStep) (t : Nat) (chain : List Node) (pos p : Nat) (orc : Orc) (w : Option WVal) :
    runAcc g (f + 4) (.clear :: .load :: more) s t chain pos p orc w =
      runAcc g (f + 2) more s1 t chain pos p orc w := by
  unfold forceAt at hf
  rw [runAcc]
  cases hc : clearprops g s with
  | mk s0 r0 =>
    rw [hc] at hf
    cases r0 with
    | ok u =>
      simp only at hf ⊢
      rw [runAcc]
      simp only [hf]
    | attrError => simp at hf
    | otherError => simp at hf
    | outOfFuel => simp at hf

/-- closed form of a read in state `s`, with `s1` the state after the forced load: the pure walk; if
    it meets a pending property: force, then the pure walk from that object, with the `__getattr__`
    fallback when that raises `AttributeError`.  The cases are those of `getAttr`, so that
    `getAttr_spec` is by unfolding both; the fallback finds nothing new, and everything else reads
    `getSpec` through `getSpec_eq`. -/
def getSpec (g : GroupCfg) (s s1 : GS) (t : Nat) (chain : List Node) (pos p : Nat) (orc : Orc) :
    GS × Res Val :=
  match findStop g s t p orc chain pos with
  | .val v => (s, .ok v)
  | .fail => (s, .attrError)
  | .pendingAt j =>
    let sub := chain.drop (j - pos)
    match findStop g s1 t p orc sub j with
    | .val v => (s1, .ok v)
    | .pendingAt _ => (s1, .outOfFuel)
    | .fail =>
      match sub with
      | node :: rest =>
        if node.cls.delegates then (s1, resOf (findStop g s1 t p orc rest (j + 1))) else (s1, .attrError)
      | [] => (s1, .attrError)

/-- the `__getattr__` fallback of `getSpec` finds nothing the walk from the pending property has
    not found: a read that meets a pending property at `j` is the walk in `s1` from there on -/
theorem getSpec_eq (g : GroupCfg) (s s1 : GS) (t : Nat) (chain : List Node) (pos p : Nat) (orc : Orc) :
    getSpec g s s1 t chain pos p orc =
      match findStop g s t p orc chain pos with
      | .pendingAt j => (s1, resOf (findStop g s1 t p orc (chain.drop (j - pos)) j))
      | st => (s, resOf st) := by
  unfold getSpec
  cases findStop g s t p orc chain pos with
  | val v => rfl
  | fail => rfl
  | pendingAt j =>
    simp only
    cases hfs : findStop g s1 t p orc (List.drop (j - pos) chain) j with
    | val v => rfl
    | pendingAt j' => rfl
    | fail =>
      cases hsub : List.drop (j - pos) chain with
      | nil => rfl
      | cons node rest =>
        simp only
        split
        · next hd =>
          rw [hsub, findStop_cons] at hfs
          split at hfs
          · cases hfs
          · cases hfs
          · rw [if_pos hd] at hfs
            rw [hfs]
        · rfl

theorem getAttr_spec (g : GroupCfg) (hget : g.getter = [.clear, .load, .get]) {s s1 : GS} (f : Nat)
    (hf : forceAt g (f + 2) s = (s1, .ok ())) (hnp : s1.noPending = true)
    (t : Nat) (chain : List Node) (pos p : Nat) (orc : Orc) :
    getAttr g (f + 5) s t chain pos p orc = getSpec g s s1 t chain pos p orc := by
  unfold getAttr getSpec
  cases hfs : findStop g s t p orc chain pos with
  | val v => rfl
  | fail => rfl
  | pendingAt j =>
    simp only
    rw [hget, runAcc_force g f hf, runAcc, getAttr_noPending g hnp]
    cases hfs1 : findStop g s1 t p orc (List.drop (j - pos) chain) j with
    | val v => rfl
    | pendingAt j' => exact absurd hfs1 (findStop_noPending hnp)
    | fail =>
      simp only [resOf]
      cases hsub : List.drop (j - pos) chain with
      | nil => rfl
      | cons node rest =>
        simp only
        split
        · rw [getAttr_noPending g hnp]
          rfl
        · rfl

theorem getSpec_noPending (g : GroupCfg) {s : GS} (h : s.noPending = true) (s1 : GS) (t : Nat)
    (chain : List Node) (pos p : Nat) (orc : Orc) :
    getSpec g s s1 t chain pos p orc = (s, resOf (findStop g s t p orc chain pos)) := by
  rw [getSpec_eq]
  cases hfs : findStop g s t p orc chain pos with
  | val v => rfl
  | fail => rfl
  | pendingAt j => exact absurd hfs (findStop_noPending h)

theorem getSpec_state (g : GroupCfg) (s s1 : GS) (t : Nat) (chain : List Node) (pos p : Nat) (orc : Orc) :
    (getSpec g s s1 t chain pos p orc).1 = s ∨
      (s.noPending = false ∧ (getSpec g s s1 t chain pos p orc).1 = s1) := by
  rw [getSpec_eq]
  cases hfs : findStop g s t p orc chain pos with
  | val v => exact .inl rfl
  | fail => exact .inl rfl
  | pendingAt j =>
    exact .inr ⟨Bool.eq_false_iff.mpr fun h => findStop_noPending h hfs, rfl⟩

theorem getSpec_cons (g : GroupCfg) (s s1 : GS) (t : Nat) (n : Node) (rest : List Node) (pos p : Nat)
    (orc : Orc) :
    getSpec g s s1 t (n :: rest) pos p orc =
      match look g s t p (orc pos) pos n with
      | .pend => (s1, resOf (findStop g s1 t p orc (n :: rest) pos))
      | .val v => (s, .ok v)
      | .pass => if n.cls.delegates then getSpec g s s1 t rest (pos + 1) p orc else (s, .attrError) := by
  rw [getSpec_eq, findStop_cons]
  cases look g s t p (orc pos) pos n with
  | pend => simp only [Nat.sub_self, List.drop_zero]
  | val v => rfl
  | pass =>
    cases n.cls.delegates with
    | false => rfl
    | true =>
      simp only [if_true]
      rw [getSpec_eq]
      cases hfs : findStop g s t p orc rest (pos + 1) with
      | val v => rfl
      | fail => rfl
      | pendingAt j =>
        have hj : j - pos = (j - (pos + 1)) + 1 := by have := findStop_pendingAt_le hfs; omega
        simp only [hj, List.drop_succ_cons]

/-! ## assignments -/

theorem setAttr_spec (g : GroupCfg) (hset : g.setter = [.clear, .load, .set]) {s s1 : GS} (f : Nat)
    (hf : forceAt g (f + 2) s = (s1, .ok ())) (t : Nat) {node : Node} (rest : List Node) (pos : Nat)
    {p : Nat} (hp : s.clsGet node.cls p = some .pending) (orc : Orc) (w : WVal) :
    setAttr g (f + 5) s t (node :: rest) pos p orc w = setAttr g (f + 1) s1 t (node :: rest) pos p orc w := by
  conv => lhs; unfold setAttr
  simp only [hp]
  rw [hset, runAcc_force g f hf, runAcc]

theorem setAttr_user_state (g : GroupCfg) (s : GS) (f t : Nat) (chain : List Node) (pos p : Nat) (orc : Orc) :
    (setAttr g (f + 1) s t chain pos p orc .user).1 = s ∨
      ∃ node rest, chain = node :: rest ∧ s.clsGet node.cls p = some .pending := by
  unfold setAttr
  cases chain with
  | nil => exact .inl rfl
  | cons node rest =>
    simp only
    rcases hc : s.clsGet node.cls p with _ | (_ | _ | _)
    · exact .inl rfl
    · exact .inr ⟨node, rest, rfl, hc⟩
    · exact .inl rfl
    · exact .inl rfl

/-! ## the fuel of a top-level event -/

/-- the fuel at which a top-level event (`fuel0 = 55 + 5`) runs the forced load: `getAttr_spec` and
    `setAttr_spec` at `f = 55` -/
def forceFuel : Nat := 57

theorem fuel0_eq : fuel0 = 55 + 5 := rfl

/-! ## a read only looks at the class of each object and at which of the group's write effects
select it: a finite alphabet of chains -/

/-- all (init, index) positions of the group's effect lists -/
def allPositions (g : GroupCfg) : List (Nat × Nat) :=
  g.inits.flatMap fun mi => (List.range mi.2.length).map fun k => (mi.1, k)

/-- the per-instance write effects of the group on objects of class c -/
def writesOn (g : GroupCfg) (c : Cls) : List (Nat × Nat) :=
  (allPositions g).filter fun ik =>
    match g.eff? ik.1 ik.2 with
    | some (.instWrite c' _ _ _) => c' = c
    | _ => false

theorem mem_writesOn {g : GroupCfg} {i k : Nat} {c : Cls} {p : Nat} {sel : Sel} {sh : Bool}
    (h : g.eff? i k = some (.instWrite c p sel sh)) : (i, k) ∈ writesOn g c := by
  obtain ⟨es, hes, hk⟩ := eff?_mem h
  refine List.mem_filter.mpr ⟨?_, by simp [h]⟩
  have hlt : k < es.length := (List.getElem?_eq_some_iff.mp hk).1
  exact List.mem_flatMap.mpr ⟨(i, es), hes, List.mem_map.mpr ⟨k, List.mem_range.mpr hlt, rfl⟩⟩

def normNode (g : GroupCfg) (n : Node) : Node :=
  ⟨n.cls, 0, (writesOn g n.cls).filter fun ik => n.rows.contains ik⟩

theorem find?_congr {α : Type} {p q : α → Bool} : ∀ {l : List α}, (∀ x ∈ l, p x = q x) →
    l.find? p = l.find? q
  | [], _ => rfl
  | x :: xs, h => by
    simp only [List.find?_cons, h x (List.mem_cons_self ..)]
    rw [find?_congr (fun y hy => h y (List.mem_cons_of_mem _ hy))]

theorem instData_norm (g : GroupCfg) (s : GS) (t : Nat) (n : Node) (p : Nat) :
    s.instData g t (normNode g n) p = s.instData g t n p := by
  unfold GS.instData
  congr 1
  apply find?_congr
  intro ⟨t', i, k⟩ _
  simp only [normNode]
  cases he : g.eff? i k with
  | none => simp only [Bool.and_false]
  | some e =>
    cases e with
    | instWrite c p' sel sh =>
      by_cases hc : c = n.cls
      · subst hc
        simp [mem_writesOn he]
      · simp only [hc, decide_false, Bool.false_and, Bool.and_false]
    | _ => simp only [Bool.and_false]

theorem findStop_norm (g : GroupCfg) (s : GS) (t p : Nat) (orc : Orc) :
    ∀ (chain : List Node) (pos : Nat),
      findStop g s t p orc (chain.map (normNode g)) pos = findStop g s t p orc chain pos := by
  intro chain
  induction chain with
  | nil => intro pos; rfl
  | cons n rest ih =>
    intro pos
    have hl : look g s t p (orc pos) pos (normNode g n) = look g s t p (orc pos) pos n := by
      unfold look
      rw [instData_norm]
      rfl
    rw [List.map_cons, findStop_cons, findStop_cons, hl, ih]
    rfl

theorem getSpec_norm (g : GroupCfg) (s s1 : GS) (t : Nat) (chain : List Node) (pos p : Nat) (orc : Orc) :
    getSpec g s s1 t (chain.map (normNode g)) pos p orc = getSpec g s s1 t chain pos p orc := by
  rw [getSpec_eq, getSpec_eq, findStop_norm]
  cases findStop g s t p orc chain pos with
  | val v => rfl
  | fail => rfl
  | pendingAt j =>
    simp only
    rw [← List.map_drop, findStop_norm]

def subsets {α : Type} : List α → List (List α)
  | [] => [[]]
  | x :: xs => (subsets xs).map (x :: ·) ++ subsets xs

theorem filter_mem_subsets {α : Type} (f : α → Bool) : ∀ l : List α, l.filter f ∈ subsets l
  | [] => by simp [subsets]
  | x :: xs => by
    have ih := filter_mem_subsets f xs
    simp only [List.filter_cons, subsets]
    split
    · exact List.mem_append_left _ (List.mem_map.mpr ⟨_, ih, rfl⟩)
    · exact List.mem_append_right _ ih

def nodesOf (g : GroupCfg) (c : Cls) : List Node := (subsets (writesOn g c)).map fun r => ⟨c, 0, r⟩

theorem normNode_mem_nodesOf (g : GroupCfg) (n : Node) {c : Cls} (h : n.cls = c) : normNode g n ∈ nodesOf g c :=
  h ▸ List.mem_map.mpr ⟨_, filter_mem_subsets _ _, rfl⟩

/-- the delegation chains of real atoms: element; isotope → element; ion → element;
    ion → isotope → element.  One such chain is an *atom profile*: for each object its class and
    which of the group's write effects select it – all that a read can tell about an atom
    (`findStop_norm`). -/
def chainsOf (g : GroupCfg) : List (List Node) :=
  (nodesOf g .element).map (fun e => [e]) ++
  (nodesOf g .isotope).flatMap (fun i => (nodesOf g .element).map fun e => [i, e]) ++
  (nodesOf g .ion).flatMap (fun n => (nodesOf g .element).map fun e => [n, e]) ++
  (nodesOf g .ion).flatMap (fun n => (nodesOf g .isotope).flatMap fun i =>
    (nodesOf g .element).map fun e => [n, i, e])

def ChainOK (chain : List Node) : Prop :=
  chain.map (·.cls) = [.element] ∨ chain.map (·.cls) = [.isotope, .element] ∨
  chain.map (·.cls) = [.ion, .element] ∨ chain.map (·.cls) = [.ion, .isotope, .element]

instance (chain : List Node) : Decidable (ChainOK chain) := by unfold ChainOK; exact inferInstance

theorem norm_mem_chainsOf (g : GroupCfg) {chain : List Node} (h : ChainOK chain) :
    chain.map (normNode g) ∈ chainsOf g := by
  simp only [chainsOf, List.mem_append, List.mem_map, List.mem_flatMap]
  rcases chain with _ | ⟨a, _ | ⟨b, _ | ⟨c, _ | _⟩⟩⟩ <;>
    simp only [ChainOK, List.map_cons, List.map_nil, List.cons.injEq, and_true, and_false,
      or_false, false_or, List.nil_eq, List.cons_ne_nil] at h
  · exact .inl (.inl (.inl ⟨_, normNode_mem_nodesOf g a h, rfl⟩))
  · rcases h with h | h
    · exact .inl (.inl (.inr ⟨_, normNode_mem_nodesOf g a h.1, _, normNode_mem_nodesOf g b h.2, rfl⟩))
    · exact .inl (.inr ⟨_, normNode_mem_nodesOf g a h.1, _, normNode_mem_nodesOf g b h.2, rfl⟩)
  · exact .inr ⟨_, normNode_mem_nodesOf g a h.1, _, normNode_mem_nodesOf g b h.2.1, _, normNode_mem_nodesOf g c h.2.2, rfl⟩

theorem chainOK_length {chain : List Node} (h : ChainOK chain) : chain.length ≤ 3 := by
  have : (chain.map (·.cls)).length ≤ 3 := by
    rcases h with h | h | h | h <;> rw [h] <;> simp
  simpa using this

/-! ## user values enter a read only through the oracle, at the positions of the chain -/

theorem findStop_congr_orc (g : GroupCfg) (s : GS) (t p : Nat) :
    ∀ (chain : List Node) (pos : Nat) (orc orc' : Orc),
      (∀ i, pos ≤ i → i < pos + chain.length → orc i = orc' i) →
      findStop g s t p orc chain pos = findStop g s t p orc' chain pos := by
  intro chain
  induction chain with
  | nil => intro pos orc orc' _; rfl
  | cons n rest ih =>
    intro pos orc orc' h
    have h0 : orc pos = orc' pos := h pos (Nat.le_refl _) (by simp)
    have hrest := ih (pos + 1) orc orc' (fun i h1 h2 => h i (by omega) (by simp only [List.length_cons]; omega))
    rw [findStop_cons, findStop_cons, h0, hrest]

theorem getSpec_congr_orc (g : GroupCfg) (s s1 : GS) (t : Nat) (chain : List Node) (p : Nat)
    (orc orc' : Orc) (h : ∀ i, i < chain.length → orc i = orc' i) :
    getSpec g s s1 t chain 0 p orc = getSpec g s s1 t chain 0 p orc' := by
  rw [getSpec_eq, getSpec_eq, findStop_congr_orc g s t p chain 0 orc orc' (fun i _ hi => h i (by omega))]
  cases findStop g s t p orc' chain 0 with
  | val v => rfl
  | fail => rfl
  | pendingAt j =>
    simp only
    rw [findStop_congr_orc g s1 t p (chain.drop (j - 0)) j orc orc']
    intro i _ hi
    rw [List.length_drop] at hi
    exact h i (by omega)

/-- user-value patterns on the (at most three) objects of a chain -/
def orcPat (b0 b1 b2 : Bool) : Orc := fun i => if i = 0 then b0 else if i = 1 then b1 else if i = 2 then b2 else false

def orcPats : List Orc :=
  [true, false].flatMap fun b0 => [true, false].flatMap fun b1 => [true, false].map fun b2 => orcPat b0 b1 b2

theorem orcPat_mem_orcPats (b0 b1 b2 : Bool) : orcPat b0 b1 b2 ∈ orcPats := by
  have hb : ∀ b : Bool, b ∈ [true, false] := by decide
  exact List.mem_flatMap.mpr ⟨b0, hb b0, List.mem_flatMap.mpr ⟨b1, hb b1, List.mem_map.mpr ⟨b2, hb b2, rfl⟩⟩⟩

theorem orcPat_false : orcPat false false false = noUser := by
  funext i; simp [orcPat, noUser]

end PtLazy
