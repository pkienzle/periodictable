import PtVerif.Model.Loaders
/-!
# Lemmas about the loader folds (core Lean only)

Association lists (latest binding first); what a key is bound to after a table was folded over
(`foldl_keeps`, `lastOf`: the last row of the key wins); Python dict assignment; what each pass
of `mass.init` writes and leaves alone.
-/
set_option linter.unusedSectionVars false
namespace PtLoad

/-! ## association lists -/

section alist
variable {κ β : Type} [DecidableEq κ]

@[simp] theorem aget_nil (k : κ) : aget k ([] : List (κ × β)) = none := rfl

/-- In the read-after-write lemmas `k` is the key written and `k'` the key read, and the `if` tests
    `k = k'` (`aget` itself tests `k' = k`): the side the loaders' facts about rows have it,
    `∀ x ∈ post, key x ≠ k'`. -/
theorem aget_cons (k k' : κ) (v : β) (l : List (κ × β)) :
    aget k' ((k, v) :: l) = if k = k' then some v else aget k' l :=
  ite_congr (propext eq_comm) (fun _ => rfl) (fun _ => rfl)

@[simp] theorem aget_cons_self (k : κ) (v : β) (l : List (κ × β)) : aget k ((k, v) :: l) = some v :=
  (aget_cons ..).trans (if_pos rfl)

theorem aget_cons_ne {k k' : κ} (h : k' ≠ k) (v : β) (l : List (κ × β)) :
    aget k' ((k, v) :: l) = aget k' l :=
  (aget_cons ..).trans (if_neg h.symm)

theorem aget_append (k : κ) (l₁ l₂ : List (κ × β)) :
    aget k (l₁ ++ l₂) = (aget k l₁).or (aget k l₂) := by
  induction l₁ with
  | nil => rfl
  | cons p l ih =>
    rw [List.cons_append, aget, aget, ih]
    split <;> rfl

theorem aget_eq_none_of_forall_ne (k : κ) (l : List (κ × β)) (h : ∀ p ∈ l, p.1 ≠ k) :
    aget k l = none := by
  induction l with
  | nil => rfl
  | cons p l ih =>
    rw [aget, if_neg fun e => h p List.mem_cons_self e.symm]
    exact ih fun p hp => h p (List.mem_cons_of_mem _ hp)

end alist

/-! ## a row of a table: by index, as `pre ++ r :: post`, as the last of its kind -/

theorem split_at_index {ρ : Type} (rows : List ρ) (i : Nat) (r : ρ) (h : rows[i]? = some r) :
    ∃ pre post, rows = pre ++ r :: post ∧ pre.length = i := by
  obtain ⟨hi, hr⟩ := List.getElem?_eq_some_iff.mp h
  refine ⟨rows.take i, rows.drop (i + 1), ?_, List.length_take_of_le (Nat.le_of_lt hi)⟩
  rw [← hr, ← List.drop_eq_getElem_cons hi, List.take_append_drop]

theorem getElem?_of_split {ρ : Type} {rows pre post : List ρ} {r : ρ} (h : rows = pre ++ r :: post) :
    rows[pre.length]? = some r := by
  rw [h, List.getElem?_append_right (Nat.le_refl _), Nat.sub_self]
  rfl

theorem exists_last {ρ : Type} (p : ρ → Prop) (rows : List ρ) (h : ∃ x ∈ rows, p x) :
    ∃ pre r post, rows = pre ++ r :: post ∧ p r ∧ ∀ x ∈ post, ¬p x := by
  induction rows with
  | nil =>
    obtain ⟨_, hx, _⟩ := h
    cases hx
  | cons x rows ih =>
    by_cases hl : ∃ y ∈ rows, p y
    · obtain ⟨pre, r, post, e, hr, hp⟩ := ih hl
      exact ⟨x :: pre, r, post, congrArg (x :: ·) e, hr, hp⟩
    · obtain ⟨y, hy, hpy⟩ := h
      rcases List.mem_cons.mp hy with rfl | hy
      · exact ⟨[], y, rows, rfl, hpy, fun v hv e => hl ⟨v, hv, e⟩⟩
      · exact absurd ⟨y, hy, hpy⟩ hl

theorem later_keys_ne {ρ κ : Type} {key : ρ → Option κ} {pre post : List ρ} {s : ρ} {k : κ}
    (hnd : ((pre ++ s :: post).filterMap key).Nodup) (hk : key s = some k) :
    ∀ x ∈ post, key x ≠ some k := by
  intro x hx e
  rw [List.filterMap_append, List.filterMap_cons, hk] at hnd
  exact (List.nodup_cons.mp (List.nodup_append.mp hnd).2.1).1 (List.mem_filterMap.mpr ⟨x, hx, e⟩)

theorem split_of_mem_nodup_filterMap {ρ κ : Type} {key : ρ → Option κ} {l : List ρ}
    (hnd : (l.filterMap key).Nodup) {s : ρ} {k : κ} (hk : key s = some k) (hs : s ∈ l) :
    ∃ pre post, l = pre ++ s :: post ∧ ∀ x ∈ post, key x ≠ some k := by
  obtain ⟨pre, post, rfl⟩ := List.append_of_mem hs
  exact ⟨pre, post, rfl, later_keys_ne hnd hk⟩

theorem split_of_mem_nodup {ρ κ : Type} {key : ρ → κ} {l : List ρ} (hnd : (l.map key).Nodup)
    {s : ρ} (hs : s ∈ l) : ∃ pre post, l = pre ++ s :: post ∧ ∀ x ∈ post, key x ≠ key s := by
  rw [← List.filterMap_eq_map] at hnd
  obtain ⟨pre, post, e, h⟩ := split_of_mem_nodup_filterMap (key := some ∘ key) hnd rfl hs
  exact ⟨pre, post, e, fun x hx e => h x hx (congrArg some e)⟩

/-! ## a table read row by row

Every loader is `rows.foldl step init`, and what it serves under one key is an observation `obs`
of the state.  When a row either rebinds the key (`p r`, to `F r`) or leaves it alone, the
observation after the fold is `lastOf p F rows (obs init)`: the last row with `p` wins. -/

section fold
variable {σ ρ β : Type}

theorem foldl_rel (R : σ → σ → Prop) (refl : ∀ s, R s s) (trans : ∀ {a b c}, R a b → R b c → R a c)
    {step : σ → ρ → σ} (rows : List ρ) (s : σ) (h : ∀ s, ∀ r ∈ rows, R s (step s r)) :
    R s (rows.foldl step s) :=
  List.foldlRecOn rows step (refl s) fun t ht r hr => trans ht (h t r hr)

theorem foldl_keeps (obs : σ → β) {step : σ → ρ → σ} (rows : List ρ)
    (h : ∀ s, ∀ r ∈ rows, obs (step s r) = obs s) (s : σ) : obs (rows.foldl step s) = obs s :=
  foldl_rel (fun a b => obs b = obs a) (fun _ => rfl) (fun h1 h2 => h2.trans h1) rows s h

/-- what a key is bound to after `rows` were read over `init`, when exactly the rows with `p`
    rebind it, to `F r` -/
def lastOf (p : ρ → Prop) [DecidablePred p] (F : ρ → β) (rows : List ρ) (init : β) : β :=
  rows.foldl (fun o r => if p r then F r else o) init

variable {p : ρ → Prop} [DecidablePred p] {F : ρ → β}

theorem foldl_lastOf (obs : σ → β) {step : σ → ρ → σ}
    (h : ∀ s r, obs (step s r) = if p r then F r else obs s) (rows : List ρ) (s : σ) :
    obs (rows.foldl step s) = lastOf p F rows (obs s) :=
  (List.foldl_hom obs fun s r => (h s r).symm).symm

/-- the same when the steps rebind the key in this way only on states with `I`, which they keep
    (`p` may then speak of what `I` fixes of the starting state) -/
theorem foldl_lastOf_of_inv (I : σ → Prop) (obs : σ → β) {step : σ → ρ → σ}
    (keep : ∀ s r, I s → I (step s r)) (h : ∀ s r, I s → obs (step s r) = if p r then F r else obs s)
    (rows : List ρ) (s : σ) (hs : I s) : obs (rows.foldl step s) = lastOf p F rows (obs s) := by
  induction rows generalizing s with
  | nil => rfl
  | cons r rows ih =>
    rw [List.foldl_cons, ih _ (keep s r hs), h s r hs]
    rfl

theorem lastOf_none {rows : List ρ} (h : ∀ x ∈ rows, ¬p x) (init : β) :
    lastOf p F rows init = init :=
  foldl_keeps id rows (fun _ x hx => if_neg (h x hx)) init

theorem lastOf_last {pre post : List ρ} {r : ρ} (h : ∀ x ∈ post, ¬p x) (hr : p r) (init : β) :
    lastOf p F (pre ++ r :: post) init = F r := by
  unfold lastOf
  rw [List.foldl_append, List.foldl_cons, if_pos hr]
  exact lastOf_none h _

theorem lastOf_map {τ : Type} (g : τ → ρ) (rows : List τ) (init : β) :
    lastOf p F (rows.map g) init = lastOf (fun x => p (g x)) (fun x => F (g x)) rows init :=
  List.foldl_map

/-- rows that rebind the key all bind it to the same value: it does not matter which is last -/
theorem lastOf_of_agree {rows : List ρ} {r : ρ} (h : ∀ x ∈ rows, p x → F x = F r) (hr : r ∈ rows)
    (hp : p r) (init : β) : lastOf p F rows init = F r := by
  obtain ⟨pre, x, post, rfl, hx, hpost⟩ := exists_last p rows ⟨r, hr, hp⟩
  rw [lastOf_last hpost hx, h x List.mem_append_cons_self hx]

variable {κ : Type} [DecidableEq κ]

theorem lastOf_of_mem_filterMap_nodup {key : ρ → Option κ} {rows : List ρ}
    (hnd : (rows.filterMap key).Nodup) {r : ρ} (hr : r ∈ rows) {k : κ} (hk : key r = some k)
    (init : β) : lastOf (fun x => key x = some k) F rows init = F r := by
  obtain ⟨pre, post, rfl, h⟩ := split_of_mem_nodup_filterMap hnd hk hr
  exact lastOf_last h hk init

theorem lastOf_of_mem_nodup {key : ρ → κ} {rows : List ρ} (hnd : (rows.map key).Nodup) {r : ρ}
    (hr : r ∈ rows) (init : β) : lastOf (fun x => key x = key r) F rows init = F r := by
  obtain ⟨pre, post, rfl, h⟩ := split_of_mem_nodup hnd hr
  exact lastOf_last h rfl init

end fold

/-! ## Python dict assignment -/

section dict
variable {κ β : Type} [DecidableEq κ]

theorem aget_dictSet (k k' : κ) (v : β) (l : List (κ × β)) :
    aget k' (dictSet k v l) = if k = k' then some v else aget k' l := by
  induction l with
  | nil => exact aget_cons ..
  | cons x l ih =>
    obtain ⟨k'', v''⟩ := x
    rw [dictSet]
    by_cases h : k = k''
    · subst h
      rw [if_pos rfl, aget_cons, aget_cons]
      by_cases h' : k = k'
      · rw [if_pos h', if_pos h']
      · rw [if_neg h', if_neg h', if_neg h']
    · rw [if_neg h, aget_cons, ih, aget_cons]
      by_cases h' : k = k'
      · subst h'
        rw [if_neg (Ne.symm h), if_pos rfl, if_pos rfl]
      · rw [if_neg h', if_neg h']

theorem aget_dictSet_self (k : κ) (v : β) (l : List (κ × β)) : aget k (dictSet k v l) = some v := by
  rw [aget_dictSet, if_pos rfl]

theorem aget_dictSet_ne {k k' : κ} (h : k' ≠ k) (v : β) (l : List (κ × β)) :
    aget k' (dictSet k v l) = aget k' l := by
  rw [aget_dictSet, if_neg h.symm]

theorem map_fst_dictSet (k : κ) (v : β) (l : List (κ × β)) :
    (dictSet k v l).map Prod.fst
      = if k ∈ l.map Prod.fst then l.map Prod.fst else l.map Prod.fst ++ [k] := by
  induction l with
  | nil => rfl
  | cons x l ih =>
    obtain ⟨k', v'⟩ := x
    rw [dictSet]
    by_cases h : k = k'
    · subst h
      rw [if_pos rfl]
      exact (if_pos (List.mem_cons_self (a := k))).symm
    · rw [if_neg h, List.map_cons, ih, List.map_cons]
      by_cases h' : k ∈ l.map Prod.fst
      · rw [if_pos h', if_pos (List.mem_cons_of_mem _ h')]
      · rw [if_neg h', if_neg fun hm => (List.mem_cons.mp hm).elim h h']
        rfl

theorem dictSet_nodup (k : κ) (v : β) (l : List (κ × β)) (h : (l.map Prod.fst).Nodup) :
    ((dictSet k v l).map Prod.fst).Nodup := by
  rw [map_fst_dictSet]
  split
  · exact h
  · rename_i hk
    exact List.nodup_append.mpr ⟨h, List.nodup_cons.mpr ⟨List.not_mem_nil, List.nodup_nil⟩,
      fun a ha b hb e => hk (List.mem_singleton.mp hb ▸ e ▸ ha)⟩

theorem dictSet_map {γ : Type} (f : β → γ) (k : κ) (v : β) (l : List (κ × β)) :
    dictSet k (f v) (l.map fun p => (p.1, f p.2)) = (dictSet k v l).map fun p => (p.1, f p.2) := by
  induction l with
  | nil => rfl
  | cons x l ih =>
    rw [List.map_cons, dictSet, dictSet, ih]
    split <;> rfl

end dict

/-! ## the passes of `mass.init` -/

section mass
variable {α : Type} [Add α] [Sub α] [Mul α] [Div α] [OfNat α 0] [NatCast α] [IntCast α] [Transc α]

def isoKey (r : IsoRow) : Nat × Nat := (r.z, r.a)

/-- the overriding rows of `element_mass` (those whose value is not `-`) -/
def overrides (rows : List ElRow) : List (Nat × Unc) :=
  rows.filterMap fun r => r.value.map fun u => (r.z, u)

theorem pass2_keeps (rows : List ElRow) (st : MassState α) :
    (rows.foldl pass2Step st).isoMass = st.isoMass ∧ (rows.foldl pass2Step st).isoAb = st.isoAb ∧
      (rows.foldl pass2Step st).isotopes = st.isotopes := by
  -- the observation is the conjunction itself: no step changes it, and it holds of `st`
  refine (foldl_keeps (fun s => s.isoMass = st.isoMass ∧ s.isoAb = st.isoAb ∧ s.isotopes = st.isotopes)
    rows (fun s r _ => ?_) st).mpr ⟨rfl, rfl, rfl⟩
  unfold pass2Step
  split <;> rfl

theorem pass2_isoMass (rows : List ElRow) (st : MassState α) :
    (rows.foldl pass2Step st).isoMass = st.isoMass := (pass2_keeps rows st).1

theorem pass2_isoAb (rows : List ElRow) (st : MassState α) :
    (rows.foldl pass2Step st).isoAb = st.isoAb := (pass2_keeps rows st).2.1

theorem pass2_isotopes (rows : List ElRow) (st : MassState α) :
    (rows.foldl pass2Step st).isotopes = st.isotopes := (pass2_keeps rows st).2.2

theorem pass2_elMass (rows : List ElRow) (st : MassState α) (z : Nat) :
    aget z (rows.foldl pass2Step st).elMass
      = lastOf (fun p => p.1 = z) (fun p => some (p.2.eval : VU α)) (overrides rows) (aget z st.elMass) := by
  refine .trans ?_ (List.foldl_filterMap (l := rows)).symm
  refine (List.foldl_hom (fun s : MassState α => aget z s.elMass) fun s r => ?_).symm
  unfold pass2Step
  cases r.value
  · rfl
  · exact (aget_cons ..).symm

variable [BEq α]

theorem flush_keeps (st : MassState α) (z : Nat) (value : List (Nat × (α × α))) :
    (flush st z value).elMass = st.elMass ∧ (flush st z value).isoMass = st.isoMass ∧
      (flush st z value).isotopes = st.isotopes := by
  unfold flush
  split
  · exact ⟨rfl, rfl, rfl⟩
  · refine (foldl_keeps (fun s => s.elMass = st.elMass ∧ s.isoMass = st.isoMass ∧ s.isotopes = st.isotopes)
      value (fun _ _ _ => ?_) st).mpr ⟨rfl, rfl, rfl⟩
    rfl

theorem flush_isoAb (st : MassState α) (z' : Nat) (value : List (Nat × (α × α))) (k : Nat × Nat) :
    aget k (flush st z' value).isoAb
      = if z' = 0 then aget k st.isoAb else
          lastOf (fun e => (z', e.1) = k) (fun e => some (((100 : Nat) : α) * e.2.1 / abTotal value,
            ((100 : Nat) : α) * e.2.2 / abTotal value)) value (aget k st.isoAb) := by
  unfold flush
  split
  · rfl
  · exact foldl_lastOf (fun s : MassState α => aget k s.isoAb) (fun s e => aget_cons ..) value st

/-- the composition table cut into one `(Z, dict)` section per header (the lines before the
    first header form a section of element 0, which `flush` ignores) -/
def sectionsGo (z : Nat) (value : List (Nat × (α × α))) : List AbLine → List (Nat × List (Nat × (α × α)))
  | [] => [(z, value)]
  | .header z' :: ls => (z, value) :: sectionsGo z' [] ls
  | .entry a u :: ls => sectionsGo z (dictSet a ((u.eval (α := α)).getD (0, 0)) value) ls

def sections (ls : List AbLine) : List (Nat × List (Nat × (α × α))) := sectionsGo 0 [] ls

theorem pass3_go (c : AbCur α) (ls : List AbLine) :
    (let c' := ls.foldl pass3Step c; flush c'.st c'.z c'.value)
      = (sectionsGo c.z c.value ls).foldl (fun st s => flush st s.1 s.2) c.st := by
  induction ls generalizing c with
  | nil => rfl
  | cons l ls ih => cases l <;> exact ih _

theorem pass3_eq (st : MassState α) (ls : List AbLine) :
    pass3 st ls = (sections (α := α) ls).foldl (fun st s => flush st s.1 s.2) st :=
  pass3_go ⟨st, 0, []⟩ ls

theorem pass3_keeps (st : MassState α) (ls : List AbLine) :
    (pass3 st ls).elMass = st.elMass ∧ (pass3 st ls).isoMass = st.isoMass ∧
      (pass3 st ls).isotopes = st.isotopes := by
  rw [pass3_eq]
  refine (foldl_keeps (fun s => s.elMass = st.elMass ∧ s.isoMass = st.isoMass ∧ s.isotopes = st.isotopes)
    _ (fun s x _ => ?_) st).mpr ⟨rfl, rfl, rfl⟩
  obtain ⟨h1, h2, h3⟩ := flush_keeps s x.1 x.2
  rw [h1, h2, h3]

theorem pass3_elMass (st : MassState α) (ls : List AbLine) : (pass3 st ls).elMass = st.elMass :=
  (pass3_keeps st ls).1

theorem pass3_isoMass (st : MassState α) (ls : List AbLine) : (pass3 st ls).isoMass = st.isoMass :=
  (pass3_keeps st ls).2.1

theorem pass3_isotopes (st : MassState α) (ls : List AbLine) : (pass3 st ls).isotopes = st.isotopes :=
  (pass3_keeps st ls).2.2

/-- the line-wise part of `pass3OkGo`: the value of an entry is not blank -/
def entryOk : AbLine → Bool
  | .entry _ u => u != .missing
  | .header _ => true

theorem pass3OkGo_iff (symOf : Nat → Option Nat) (isotopes : List (Nat × Nat)) (z : Nat)
    (value : List (Nat × (α × α))) (ls : List AbLine) :
    pass3OkGo (α := α) symOf isotopes z value ls = true
      ↔ (∀ l ∈ ls, entryOk l = true) ∧ ∀ s ∈ sectionsGo (α := α) z value ls, flushOk symOf isotopes s.1 s.2 = true := by
  induction ls generalizing z value with
  | nil => simp [pass3OkGo, sectionsGo]
  | cons l ls ih =>
    cases l with
    | header z' =>
      simp only [pass3OkGo, sectionsGo, Bool.and_eq_true, ih, List.mem_cons, forall_eq_or_imp, entryOk, true_and]
      exact and_left_comm
    | entry a u =>
      simp only [pass3OkGo, sectionsGo, Bool.and_eq_true, ih, List.mem_cons, forall_eq_or_imp, entryOk]
      exact and_assoc.symm

end mass

/-- membership test in a sorted-or-not key list, linear -/
def hasKey (k : Nat × Nat) (l : List (Nat × Nat)) : Bool := l.any (· == k)

end PtLoad
