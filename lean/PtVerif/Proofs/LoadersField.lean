import PtVerif.Proofs.LoadersMass
import Mathlib.Tactic.Ring
import Mathlib.Tactic.FieldSimp
import Mathlib.Tactic.Positivity
import Mathlib.Algebra.Order.Field.Basic
import Mathlib.Analysis.SpecialFunctions.Log.Basic
import Mathlib.Analysis.SpecialFunctions.Sqrt
import Mathlib.Analysis.SpecialFunctions.Trigonometric.Basic
/-!
# Field-level facts of the loaders (Mathlib)

`abTotal` as a sum; readings with positive numbers have positive values, so `mass.init` runs to
completion on well-formed tables; the density identities.
-/
set_option linter.unusedSectionVars false
namespace PtLoad

noncomputable instance : Transc ℝ :=
  ⟨Real.exp, Real.log, Real.sqrt, Real.cos, Real.pi, fun x => |x|⟩

section field
variable {α : Type} [Field α]

theorem abTotal_eq_sum (value : List (Nat × (α × α))) :
    abTotal value = (value.map fun p => p.2.1).sum := by
  rw [List.sum_eq_foldl, List.foldl_map]
  rfl

end field

/-! ## positive readings -/

section ordered
variable {α : Type} [Field α] [LinearOrder α] [IsStrictOrderedRing α]

theorem Dec.toNum_pos (d : Dec) (h : 0 < d.m) : (0 : α) < d.toNum :=
  div_pos (Int.cast_pos.mpr h) (Nat.cast_pos.mpr (Nat.pow_pos (by decide)))

/-- a reading whose numbers are positive -/
def Unc.Pos : Unc → Prop
  | .missing => False
  | .plain v => 0 < v.m
  | .valUnc v _ => 0 < v.m
  | .nominal v => 0 < v.m
  | .range lo hi => 0 < lo.m ∧ 0 < hi.m

instance : DecidablePred Unc.Pos := fun u => by
  cases u <;> unfold Unc.Pos <;> infer_instance

theorem Unc.eval_pos [Transc α] (u : Unc) (h : u.Pos) : (0 : α) < ((u.eval (α := α)).getD (0, 0)).1 := by
  cases u with
  | missing => cases h
  | plain v => exact Dec.toNum_pos v h
  | valUnc v _ => exact Dec.toNum_pos v h
  | nominal v => exact Dec.toNum_pos v h
  | range lo hi =>
    exact div_pos (add_pos (Dec.toNum_pos hi h.2) (Dec.toNum_pos lo h.1)) (Nat.cast_pos.mpr (by decide))

/-! ### `mass.init` runs to completion on well-formed tables -/

variable [Transc α]

theorem sectionTotal_pos (entries : List (Nat × Unc)) (hne : entries ≠ []) (hpos : ∀ p ∈ entries, p.2.Pos) :
    (0 : α) < sectionTotal entries := by
  rw [sectionTotal, abTotal_eq_sum]
  apply List.sum_pos
  · intro x hx
    rw [List.map_map] at hx
    obtain ⟨p, hp, rfl⟩ := List.mem_map.mp hx
    exact Unc.eval_pos p.2 (hpos p hp)
  · simpa using hne

/-- **`mass.init` does not raise** on tables whose rows name elements of the table, whose
    composition entries are positive numbers naming nuclides of the isotope table -/
theorem loadOk_of_wellFormed (symOf : Nat → Option Nat) (t : MassTables)
    (h1 : pass1Ok symOf t.iso = true) (h0 : (symOf 0).isSome = true) (h2 : pass2Ok symOf t.el = true)
    (hent : ∀ l ∈ t.ab, entryOk l = true)
    (hsym : ∀ s ∈ sectionsU t.ab, s.1 = 0 ∨ (symOf s.1).isSome = true)
    (hiso : ∀ s ∈ sectionsU t.ab, ∀ p ∈ s.2, (s.1, p.1) ∈ t.iso.map isoKey)
    (hpos : ∀ s ∈ sectionsU t.ab, ∀ p ∈ s.2, p.2.Pos) :
    loadOk (α := α) symOf t = true := by
  unfold loadOk
  simp only [Bool.and_eq_true]
  refine ⟨⟨⟨h1, h0⟩, h2⟩, ?_⟩
  rw [pass3OkGo_iff]
  refine ⟨hent, ?_⟩
  rw [show sectionsGo (α := α) 0 [] t.ab = _ from sections_eq t.ab]
  intro s hs
  obtain ⟨su, hsu, rfl⟩ := List.mem_map.mp hs
  unfold flushOk
  simp only [Bool.or_eq_true, beq_iff_eq, Bool.and_eq_true, List.all_eq_true, List.mem_map,
    forall_exists_index, and_imp, forall_apply_eq_imp_iff₂, Bool.not_eq_true']
  rcases hsym su hsu with h | h
  · exact .inl h
  · refine .inr ⟨⟨h, fun p hp => ?_⟩, ?_⟩
    · exact List.contains_iff_mem.mpr ((mem_isotopesAfter t _).mpr (.inr (.inl (hiso su hsu p hp))))
    · by_cases hemp : su.2 = []
      · exact .inl (by simp [hemp])
      · exact .inr (beq_false_of_ne (ne_of_gt (sectionTotal_pos su.2 hemp (hpos su hsu))))

end ordered

/-! ## density identities (density.py) -/

section density
variable {α : Type} [Field α] [Transc α]

theorem isotope_density_ratio (rho mi me : α) : isoDensityVal rho mi me = rho * mi / me := by
  unfold isoDensityVal
  ring

end density

theorem cbrt_cubed {x : ℝ} (hx : 0 < x) : cbrt x ^ 3 = x := by
  show Real.exp (Real.log x / ((3 : ℕ) : ℝ)) ^ 3 = x
  rw [← Real.exp_nat_mul, mul_div_cancel₀ _ (by norm_num), Real.exp_log hx]

theorem n_mul_d_cubed (na rho m : ℝ) (hna : 0 < na) (hrho : 0 < rho) (hm : 0 < m) :
    numberDensityVal na rho m * interatomicDistanceVal na rho m ^ 3 = 10 ^ 24 := by
  unfold numberDensityVal interatomicDistanceVal
  rw [cbrt_cubed (div_pos hm (mul_pos (mul_pos hrho hna) (by positivity)))]
  field_simp
  norm_num

end PtLoad
