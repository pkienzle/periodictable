import PtVerif.Proofs.Loaders
import PtVerif.Proofs.TableCheck
/-!
# What `mass.init` serves (core Lean only)

For *every* table triple, what a loaded table serves under one key as a function of the three
tables (`isoMass_served`, `elMass_served`, `pass3_isoAb`, `density_served`): the last row of the
key, an override before a row, the neutron's constants, the normalised entries of the element's
section of the composition table.  The statements of C06 are read off these.

The second half is executable: the isotope rows grouped by element (`groupByZ`, `rowOf`) so that the
kernel finds a row in two short searches, and on them the exact-rational check `weightConsistent`
behind C06's `atomic_weight_consistent` (`rowOf` also serves C07's `nsf_isotopes_have_mass`, through
`rowOf_isSome`).
-/
set_option linter.unusedSectionVars false
namespace PtLoad

section
variable {α : Type} [Add α] [Sub α] [Mul α] [Div α] [OfNat α 0] [NatCast α] [IntCast α] [Transc α]
  [BEq α]

theorem isoMass_served (nm nmu : α) (t : MassTables) (k : Nat × Nat) :
    aget k (loadRows nm nmu t).isoMass
      = if k = (0, 1) then some (some (nm, nmu))
        else lastOf (fun r => isoKey r = k) (fun r => some (r.m.eval : VU α)) t.iso none := by
  simp only [loadRows]
  rw [pass3_isoMass, pass2_isoMass]
  -- the neutron's binding heads the list, and `aget k` tests `k = (0, 1)` on it by definition
  exact congrArg (if k = (0, 1) then _ else ·)
    (foldl_lastOf (fun s : MassState α => aget k s.isoMass) (fun s r => aget_cons ..) t.iso _)

/-- the override if there is one, else the neutron mass for element 0, else the element-mass
    column of the last isotope row -/
theorem elMass_served (nm nmu : α) (t : MassTables) (z : Nat) :
    (loadRows nm nmu t).elMassOf z
      = lastOf (fun p => p.1 = z) (fun p => some (p.2.eval : VU α)) (overrides t.el)
          (if z = 0 then some (some (nm, nmu))
           else lastOf (fun r => r.z = z) (fun r => some (r.avg.eval : VU α)) t.iso none) := by
  simp only [MassState.elMassOf, loadRows]
  rw [pass3_elMass, pass2_elMass]
  exact congrArg _ (congrArg (if z = 0 then _ else ·)
    (foldl_lastOf (fun s : MassState α => aget z s.elMass) (fun s r => aget_cons ..) t.iso _))

theorem loadRows_isotopes (nm nmu : α) (t : MassTables) :
    (loadRows nm nmu t).isotopes = isotopesAfter t := by
  simp only [loadRows]
  rw [pass3_isotopes, pass2_isotopes]
  exact congrArg _ (List.foldl_hom MassState.isotopes fun _ _ => rfl).symm

theorem mem_isotopesAfter (t : MassTables) (k : Nat × Nat) :
    k ∈ isotopesAfter t ↔ k = (0, 1) ∨ k ∈ t.iso.map isoKey ∨ k = (1, 3) ∨ k = (1, 2) := by
  show k ∈ (0, 1) :: t.iso.foldl (fun l r => isoKey r :: l) _ ↔ _
  simp only [List.foldl_flip_cons_eq_append, List.mem_cons, List.mem_append, List.mem_reverse, List.not_mem_nil, or_false]

/-! ## isotope masses -/

theorem MassState.isoMassOf_of_aget {st : MassState α} {z a : Nat} {v : VU α}
    (h : aget (z, a) st.isoMass = some v) : st.isoMassOf z a = some v := by
  unfold MassState.isoMassOf
  rw [h]

theorem iso_mass_is_row (nm nmu : α) (t : MassTables) (hnd : (t.iso.map isoKey).Nodup)
    (r : IsoRow) (hr : r ∈ t.iso) (hn : isoKey r ≠ (0, 1)) :
    (loadRows nm nmu t).isoMassOf r.z r.a = some (r.m.eval : VU α) :=
  MassState.isoMassOf_of_aget <| (isoMass_served nm nmu t (isoKey r)).trans <| by
    rw [if_neg hn, lastOf_of_mem_nodup hnd hr]

/-! ## abundances -/

/-- grouping of the composition table by header, values kept as readings -/
def sectionsUGo (z : Nat) (value : List (Nat × Unc)) : List AbLine → List (Nat × List (Nat × Unc))
  | [] => [(z, value)]
  | .header z' :: ls => (z, value) :: sectionsUGo z' [] ls
  | .entry a u :: ls => sectionsUGo z (dictSet a u value) ls

/-- the composition table as sections `(Z, [(A, reading)])`, in table order; lines before the
    first header form a section of element 0 -/
def sectionsU (ls : List AbLine) : List (Nat × List (Nat × Unc)) := sectionsUGo 0 [] ls

/-- an entry as pass 3 stores it in `value`: the reading as numbers, a blank as `(0, 0)` -/
def evalEntry (p : Nat × Unc) : Nat × (α × α) := (p.1, ((p.2.eval (α := α)).getD (0, 0)))

theorem sectionsGo_eq (z : Nat) (value : List (Nat × Unc)) (ls : List AbLine) :
    sectionsGo (α := α) z (value.map evalEntry) ls
      = (sectionsUGo z value ls).map fun s => (s.1, s.2.map (evalEntry (α := α))) := by
  induction ls generalizing z value with
  | nil => rfl
  | cons l ls ih =>
    cases l with
    | header z' => exact congrArg (_ :: ·) (ih z' [])
    | entry a u =>
      exact (congrArg (sectionsGo (α := α) z · ls)
        (dictSet_map (fun u : Unc => (u.eval (α := α)).getD (0, 0)) a u value)).trans (ih z _)

theorem sections_eq (ls : List AbLine) :
    sections (α := α) ls = (sectionsU ls).map fun s => (s.1, s.2.map (evalEntry (α := α))) :=
  sectionsGo_eq 0 [] ls

theorem sectionsUGo_nodup (z : Nat) (value : List (Nat × Unc)) (ls : List AbLine)
    (h : (value.map Prod.fst).Nodup) :
    ∀ s ∈ sectionsUGo z value ls, (s.2.map Prod.fst).Nodup := by
  induction ls generalizing z value with
  | nil => exact fun s hs => List.mem_singleton.mp hs ▸ h
  | cons l ls ih =>
    cases l with
    | header z' => exact fun s hs => (List.mem_cons.mp hs).elim (· ▸ h) (ih z' [] List.nodup_nil s)
    | entry a u => exact ih z _ (dictSet_nodup a u value h)

/-- within a section every isotope is listed once (Python dict) -/
theorem sectionsU_nodup (ls : List AbLine) : ∀ s ∈ sectionsU ls, (s.2.map Prod.fst).Nodup :=
  sectionsUGo_nodup 0 [] ls List.nodup_nil

/-- the sum the abundances of a section are divided by -/
def sectionTotal (entries : List (Nat × Unc)) : α := abTotal (entries.map (evalEntry (α := α)))

/-- each section of an element other than 0 rebinds its entries to their share of the section's sum -/
theorem pass3_isoAb (st : MassState α) (ls : List AbLine) (k : Nat × Nat) :
    aget k (pass3 st ls).isoAb
      = (sectionsU ls).foldl (fun o s => if s.1 = 0 then o else
            lastOf (fun e => (s.1, e.1) = k)
              (fun e => some (((100 : Nat) : α) * (evalEntry e).2.1 / sectionTotal (α := α) s.2,
                              ((100 : Nat) : α) * (evalEntry e).2.2 / sectionTotal (α := α) s.2)) s.2 o)
          (aget k st.isoAb) := by
  rw [pass3_eq, sections_eq, List.foldl_map]
  refine (List.foldl_hom (fun s : MassState α => aget k s.isoAb) fun st s => ?_).symm
  rw [flush_isoAb, lastOf_map]
  rfl

theorem isoAb_before_pass3 (nm nmu : α) (t : MassTables) (k : Nat × Nat) :
    aget k (t.el.foldl pass2Step (neutronStep nm nmu (t.iso.foldl pass1Step .fresh))).isoAb
      = if k = (0, 1) then some (((100 : Nat) : α), 0)
        else lastOf (fun r => isoKey r = k) (fun _ => some ((0 : α), (0 : α))) t.iso none := by
  rw [pass2_isoAb]
  exact congrArg (if k = (0, 1) then _ else ·)
    (foldl_lastOf (fun s : MassState α => aget k s.isoAb) (fun s r => aget_cons ..) t.iso _)

theorem abundance_normalised (nm nmu : α) (t : MassTables)
    (pre post : List (Nat × List (Nat × Unc))) (z : Nat) (entries : List (Nat × Unc))
    (hs : sectionsU t.ab = pre ++ (z, entries) :: post) (hlast : ∀ s ∈ post, s.1 ≠ z) (hz : z ≠ 0)
    (a : Nat) (u : Unc) (hu : (a, u) ∈ entries) :
    (loadRows nm nmu t).isoAbOf z a
      = some (((100 : Nat) : α) * ((u.eval (α := α)).getD (0, 0)).1 / sectionTotal (α := α) entries,
              ((100 : Nat) : α) * ((u.eval (α := α)).getD (0, 0)).2 / sectionTotal (α := α) entries) := by
  have hnd := sectionsU_nodup t.ab (z, entries) (hs ▸ List.mem_append_cons_self)
  simp only [MassState.isoAbOf, loadRows]
  rw [pass3_isoAb, hs, List.foldl_append, List.foldl_cons, if_neg hz]
  -- the sections after this one belong to other elements
  refine (foldl_keeps (fun o => o) post (fun o s hs => ite_eq_left_iff.mpr fun _ =>
    lastOf_none (fun e _ h => hlast s hs (Prod.mk.inj h).1) o) _).trans ?_
  obtain ⟨_, _, rfl, h⟩ := split_of_mem_nodup hnd hu
  exact lastOf_last (fun x hx e => h x hx (Prod.mk.inj e).2) rfl _

theorem abundance_zero_if_unlisted (nm nmu : α) (t : MassTables) (z a : Nat)
    (hrow : ∃ r ∈ t.iso, r.z = z ∧ r.a = a) (hn : (z, a) ≠ (0, 1))
    (hun : ∀ s ∈ sectionsU t.ab, s.1 = z → s.1 = 0 ∨ ∀ p ∈ s.2, p.1 ≠ a) :
    (loadRows nm nmu t).isoAbOf z a = some ((0 : α), (0 : α)) := by
  simp only [MassState.isoAbOf, loadRows]
  -- no section rebinds `(z, a)`; every isotope row binds it to 0
  rw [pass3_isoAb, isoAb_before_pass3, if_neg hn]
  refine (foldl_keeps (fun o => o) _ (fun o s hs => ite_eq_left_iff.mpr fun h0 => lastOf_none
    (fun e he h => (hun s hs (Prod.mk.inj h).1).elim h0 fun hne => hne e he (Prod.mk.inj h).2) o) _).trans ?_
  obtain ⟨r, hr, rfl, rfl⟩ := hrow
  exact lastOf_of_agree (p := fun x => isoKey x = isoKey r) (fun _ _ _ => rfl) hr rfl _

end

/-! ## rows grouped by element (kernel-friendly lookups: the generated tables are sorted by Z) -/

/-- runs of adjacent rows with the same Z -/
def groupByZ : List IsoRow → List (Nat × List IsoRow)
  | [] => []
  | r :: rs =>
    match groupByZ rs with
    | (z, g) :: gs => if r.z = z then (z, r :: g) :: gs else (r.z, [r]) :: (z, g) :: gs
    | [] => [(r.z, [r])]

theorem groupByZ_spec (rows : List IsoRow) :
    (groupByZ rows).flatMap Prod.snd = rows ∧ ∀ g ∈ groupByZ rows, ∀ r ∈ g.2, r.z = g.1 := by
  induction rows with
  | nil => exact ⟨rfl, nofun⟩
  | cons x rs ih =>
    -- `x` joins the first group of the rest or opens a group of its own
    unfold groupByZ
    split
    · rename_i z g gs heq
      rw [heq, List.forall_mem_cons] at ih
      split
      · rename_i hz
        exact ⟨congrArg (x :: ·) ih.1,
          List.forall_mem_cons.mpr ⟨List.forall_mem_cons.mpr ⟨hz, ih.2.1⟩, ih.2.2⟩⟩
      · exact ⟨congrArg (x :: ·) ih.1,
          List.forall_mem_cons.mpr ⟨fun r hr => List.mem_singleton.mp hr ▸ rfl, List.forall_mem_cons.mpr ih.2⟩⟩
    · rename_i heq
      rw [heq] at ih
      exact ⟨congrArg (x :: ·) ih.1, List.forall_mem_cons.mpr ⟨fun r hr => List.mem_singleton.mp hr ▸ rfl, nofun⟩⟩

/-- the row with key `(z, a)`, looked up through the groups -/
def rowOf (groups : List (Nat × List IsoRow)) (z a : Nat) : Option IsoRow :=
  match groups.find? (fun g => g.1 == z) with
  | some g => g.2.find? (fun r => r.a == a)
  | none => none

theorem rowOf_mem (rows : List IsoRow) (z a : Nat) (r : IsoRow)
    (h : rowOf (groupByZ rows) z a = some r) : r ∈ rows ∧ r.z = z ∧ r.a = a := by
  unfold rowOf at h
  split at h
  · rename_i g hg
    have hg1 := List.find?_some hg
    have hgm := List.mem_of_find?_eq_some hg
    have hr1 := List.find?_some h
    have hrm := List.mem_of_find?_eq_some h
    simp only [beq_iff_eq] at hg1 hr1
    exact ⟨(groupByZ_spec rows).1 ▸ List.mem_flatMap.mpr ⟨g, hgm, hrm⟩,
      ((groupByZ_spec rows).2 g hgm r hrm).trans hg1, hr1⟩
  · cases h

/-- with the runs of the elements apart (heads of the groups distinct), `rowOf` finds every row -/
theorem rowOf_isSome {rows : List IsoRow} (hnd : ((groupByZ rows).map Prod.fst).Nodup) {r : IsoRow}
    (hr : r ∈ rows) : (rowOf (groupByZ rows) r.z r.a).isSome = true := by
  obtain ⟨hflat, hz⟩ := groupByZ_spec rows
  obtain ⟨g, hg, hrg⟩ := List.mem_flatMap.mp (hflat ▸ hr)
  unfold rowOf
  rw [hz g hg r hrg, show (groupByZ rows).find? (fun g' => g'.1 == g.1) = some g from
    PtCheck.find?_key_of_mem Prod.fst hnd hg]
  exact List.find?_isSome.mpr ⟨r, hrg, beq_self_eq_true _⟩

/-! ## exact-rational reading of the mass tables (for the atomic-weight consistency fact) -/

/-- the isotope-mass value of `(z, a)` in exact rationals -/
def rowMassRat (groups : List (Nat × List IsoRow)) (z a : Nat) : Option Rat :=
  match rowOf groups z a with
  | some r => r.m.val (α := Rat)
  | none => none

/-- `Σ vᵢ·mᵢ / Σ vᵢ` over one section of the composition table -/
def weightedMass (groups : List (Nat × List IsoRow)) (z : Nat) (entries : List (Nat × Unc)) : Option Rat :=
  let tot : Rat := entries.foldl (fun s p => s + ((p.2.val (α := Rat)).getD 0)) 0
  let num : Option Rat := entries.foldl (fun s p =>
    match s, p.2.val (α := Rat), rowMassRat groups z p.1 with
    | some s, some v, some m => some (s + v * m)
    | _, _, _ => none) (some 0)
  match num with
  | some n => if tot = 0 then none else some (n / tot)
  | none => none

/-- standard atomic weight and its stated uncertainty: the `value(unc)` entry of `element_mass` -/
def atomicWeight (el : List ElRow) (z : Nat) : Option (Rat × Rat) :=
  match el.find? (fun r => r.z == z) with
  | some ⟨_, some (.valUnc v u)⟩ => some (v.toRat, u.toRat)
  | _ => none

/-- for every element listed in the composition table: `|A_r − Σ aᵢ mᵢ/Σ aᵢ| ≤ u(A_r)` -/
def weightConsistent (t : MassTables) : Bool :=
  let groups := groupByZ t.iso
  (sectionsU t.ab).all fun s =>
    s.1 == 0 || match atomicWeight t.el s.1, weightedMass groups s.1 s.2 with
      | some (a, u), some w => decide (a - w ≤ u) && decide (w - a ≤ u)
      | _, _ => false

/-! ## density.init -/

theorem density_served {α : Type} [Div α] [NatCast α] [IntCast α] (zOf : Nat → Option Nat)
    (rows : List DensityRow) (z : Nat) :
    elDensity (Density.loadRows (α := α) zOf rows) z
      = lastOf (fun r => zOf r.sym = some z) (fun r => some (r.value.map Dec.toNum)) rows none :=
  foldl_lastOf (aget z) (fun l r => by cases h : zOf r.sym <;> simp [aget_cons]) rows []

end PtLoad
