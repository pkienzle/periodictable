import PtVerif.Proofs.Loaders
import PtVerif.Model.LoadersNsf
/-!
# What `nsf.init` serves (core Lean only)

The main pass gives the i-th row the record id `i+1`; atoms point to ids.  Which id an atom
points to is decided by the keys of the rows alone (`ptrs`).  Later passes (`gapFill`, imaginary
table, energy-dependent tables, natural Lu) only rewrite records (`Agree`): they never change
which record an atom points to and only touch `b_c` (Eu-151), `total` (Xe), the three imaginary
lengths and `nsf_table`; the remaining fields of every record stay those of its row.
-/
set_option linter.unusedSectionVars false
namespace PtLoad

/-! ## which record an atom points to: the keys of the rows alone

`ptrs` replays the main pass on keys only, so pointer facts are proved here once, without the
numbers, and facts about a concrete table can be evaluated by the kernel. -/

/-- `element.neutron` / `isotope.neutron` as record ids: an atom without a binding points to id 0,
    the shared `missing` default (`elId`, `isoId`) -/
structure Ptrs where
  next : Nat
  elRec : List (Nat × Nat)
  isoRec : List ((Nat × Nat) × Nat)
deriving Repr

def Ptrs.elId (p : Ptrs) (z : Nat) : Nat := (aget z p.elRec).getD 0
def Ptrs.isoId (p : Ptrs) (z a : Nat) : Nat := (aget (z, a) p.isoRec).getD 0

def ptrStep (p : Ptrs) (r : NsfRow) : Ptrs :=
  if r.a = 0 then { p with next := p.next + 1, elRec := (r.z, p.next) :: p.elRec }
  else { next := p.next + 1
         isoRec := ((r.z, r.a), p.next) :: p.isoRec
         elRec := if p.elId r.z = 0 then (r.z, p.next) :: p.elRec else p.elRec }

/-- the pointers after the main pass over `rows` (the first row gets id 1) -/
def ptrs (rows : List NsfRow) : Ptrs := rows.foldl ptrStep ⟨1, [], []⟩

theorem ptrStep_next (p : Ptrs) (r : NsfRow) : (ptrStep p r).next = p.next + 1 := by
  unfold ptrStep
  split <;> rfl

/-- an element row always takes the element; an isotope row only if nothing has (`if
    element.neutron is missing`) -/
theorem ptrStep_elId (p : Ptrs) (r : NsfRow) (z : Nat) :
    (ptrStep p r).elId z = if r.z = z ∧ (r.a = 0 ∨ p.elId z = 0) then p.next else p.elId z := by
  have hrec : (ptrStep p r).elRec
      = if r.a = 0 ∨ p.elId r.z = 0 then (r.z, p.next) :: p.elRec else p.elRec := by
    unfold ptrStep
    by_cases ha : r.a = 0 <;> simp [ha]
  unfold Ptrs.elId
  rw [hrec, apply_ite (aget z), aget_cons]
  by_cases hz : r.z = z
  · subst hz
    rw [if_pos rfl]
    split <;> rename_i hc
    · rw [if_pos ⟨rfl, hc⟩]
      rfl
    · rw [if_neg fun c => hc c.2]
  · rw [if_neg hz, ite_self, if_neg fun c => hz c.1]

theorem ptrStep_isoId (p : Ptrs) (r : NsfRow) (z a : Nat) :
    (ptrStep p r).isoId z a = if r.a ≠ 0 ∧ (r.z, r.a) = (z, a) then p.next else p.isoId z a := by
  unfold ptrStep Ptrs.isoId
  by_cases ha : r.a = 0
  · rw [if_pos ha, if_neg fun c => c.1 ha]
  · rw [if_neg ha, aget_cons]
    by_cases hk : (r.z, r.a) = (z, a)
    · rw [if_pos hk, if_pos ⟨ha, hk⟩]
      rfl
    · rw [if_neg hk, if_neg fun c => hk c.2]

section
variable {rows pre post : List NsfRow} {r : NsfRow} (p : Ptrs) {z a : Nat}

theorem ptrFold_next : (rows.foldl ptrStep p).next = p.next + rows.length := by
  induction rows generalizing p with
  | nil => rfl
  | cons r rows ih =>
    rw [List.foldl_cons, ih, ptrStep_next, List.length_cons]
    omega

theorem ptrFold_isoId_none (h : ∀ x ∈ rows, x.a = 0 ∨ (x.z, x.a) ≠ (z, a)) :
    (rows.foldl ptrStep p).isoId z a = p.isoId z a :=
  foldl_keeps (fun q : Ptrs => q.isoId z a) rows
    (fun p x hx => by rw [ptrStep_isoId, if_neg fun c => (h x hx).elim c.1 fun hk => hk c.2]) p

theorem ptrs_isoId (ha : r.a ≠ 0) (hlast : ∀ x ∈ post, x.a = 0 ∨ (x.z, x.a) ≠ (r.z, r.a)) :
    (ptrs (pre ++ r :: post)).isoId r.z r.a = pre.length + 1 := by
  unfold ptrs
  rw [List.foldl_append, List.foldl_cons, ptrFold_isoId_none _ hlast, ptrStep_isoId,
    if_pos ⟨ha, rfl⟩, ptrFold_next, Nat.add_comm]

theorem ptrFold_elId_none (h : ∀ x ∈ rows, x.z ≠ z) : (rows.foldl ptrStep p).elId z = p.elId z :=
  foldl_keeps (fun q : Ptrs => q.elId z) rows
    (fun p x hx => by rw [ptrStep_elId, if_neg fun c => h x hx c.1]) p

theorem ptrFold_elId_keep (h0 : p.elId z ≠ 0) (h : ∀ x ∈ rows, x.z = z → x.a ≠ 0) :
    (rows.foldl ptrStep p).elId z = p.elId z :=
  -- the hypothesis travels with the fold: once the pointer is not the default, a step keeps it
  foldl_rel (fun p q : Ptrs => p.elId z ≠ 0 → q.elId z = p.elId z) (fun _ _ => rfl)
    (fun h1 h2 h0 => by rw [h2 (h1 h0 ▸ h0), h1 h0]) rows p
    (fun p x hx h0 => by rw [ptrStep_elId, if_neg fun c => c.2.elim (h x hx c.1) h0]) h0

/-- the row that takes the element keeps it: later isotope rows find it taken -/
theorem ptrs_elId_of_take (hr : r.a = 0 ∨ (pre.foldl ptrStep ⟨1, [], []⟩).elId r.z = 0)
    (hpost : ∀ x ∈ post, x.z = r.z → x.a ≠ 0) : (ptrs (pre ++ r :: post)).elId r.z = pre.length + 1 := by
  have h1 : (ptrStep (pre.foldl ptrStep ⟨1, [], []⟩) r).elId r.z = pre.length + 1 := by
    rw [ptrStep_elId, if_pos ⟨rfl, hr⟩, ptrFold_next, Nat.add_comm]
  unfold ptrs
  rw [List.foldl_append, List.foldl_cons,
    ptrFold_elId_keep _ (by rw [h1]; exact Nat.succ_ne_zero _) hpost, h1]

theorem ptrs_elId_elrow (ha : r.a = 0) (hlast : ∀ x ∈ post, x.z = r.z → x.a ≠ 0) :
    (ptrs (pre ++ r :: post)).elId r.z = pre.length + 1 :=
  ptrs_elId_of_take (.inl ha) hlast

/-- an element without a row of its own points to the record of its *first listed isotope* -/
theorem ptrs_elId_first_iso (hpre : ∀ x ∈ pre, x.z ≠ r.z) (hpost : ∀ x ∈ post, x.z = r.z → x.a ≠ 0) :
    (ptrs (pre ++ r :: post)).elId r.z = pre.length + 1 :=
  ptrs_elId_of_take (.inr (ptrFold_elId_none _ hpre)) hpost

end

/-! ### with distinct keys every atom owns the record of its row -/

def nsfKeyOf (r : NsfRow) : Nat × Nat := (r.z, r.a)

theorem ptrs_owns_row (rows : List NsfRow) (hnd : (rows.map nsfKeyOf).Nodup)
    (i : Nat) (r : NsfRow) (h : rows[i]? = some r) :
    (if r.a = 0 then (ptrs rows).elId r.z else (ptrs rows).isoId r.z r.a) = i + 1 := by
  obtain ⟨pre, post, rfl, rfl⟩ := split_at_index rows i r h
  have hlater : ∀ x ∈ post, nsfKeyOf x ≠ nsfKeyOf r := fun x hx e =>
    later_keys_ne (key := some ∘ nsfKeyOf) (List.filterMap_eq_map ▸ hnd) rfl x hx (congrArg some e)
  split
  · rename_i ha
    exact ptrs_elId_elrow ha fun x hx hz hxa =>
      hlater x hx (by unfold nsfKeyOf; rw [hz, hxa, ha])
  · rename_i ha
    exact ptrs_isoId ha fun x hx => .inr (hlater x hx)

theorem key_of_isoId (rows : List NsfRow) (hnd : (rows.map nsfKeyOf).Nodup) (i : Nat) (r : NsfRow)
    (h : rows[i]? = some r) (z a : Nat) (hid : (ptrs rows).isoId z a = i + 1) : nsfKeyOf r = (z, a) := by
  by_cases hex : ∃ x ∈ rows, x.a ≠ 0 ∧ (x.z, x.a) = (z, a)
  · obtain ⟨x, hx, hxa, hk⟩ := hex
    obtain ⟨j, hj⟩ := List.getElem?_of_mem hx
    have hown := ptrs_owns_row rows hnd j x hj
    rw [if_neg hxa, (Prod.mk.inj hk).1, (Prod.mk.inj hk).2, hid] at hown
    rw [Nat.succ.inj hown, hj] at h
    exact Option.some.inj h ▸ hk
  · -- no isotope row has the key: the pointer is still the default
    exact absurd (hid.symm.trans (ptrFold_isoId_none ⟨1, [], []⟩ fun x hx =>
      Decidable.or_iff_not_imp_left.mpr fun hxa hk => hex ⟨x, hx, hxa, hk⟩)) (Nat.succ_ne_zero i)

/-- reading off a kernel-checked fact about the row a pointer names (pointers count from 1) -/
theorem row_of_ptr {ρ : Type} {rows : List ρ} {p : Nat} {P : ρ → Bool}
    (h : (p != 0 && rows[p - 1]?.any P) = true) : ∃ j r, rows[j]? = some r ∧ p = j + 1 ∧ P r = true := by
  rw [Bool.and_eq_true, bne_iff_ne, Option.any_eq_true] at h
  obtain ⟨h0, r, hr, hP⟩ := h
  exact ⟨p - 1, r, hr, (Nat.succ_pred_eq_of_ne_zero h0).symm, hP⟩

section
variable {α : Type} [Add α] [Sub α] [Mul α] [Div α] [Neg α] [OfNat α 0] [NatCast α] [IntCast α]
  [Transc α]

/-! ## the main pass -/

/-- the `Neutron` object built from a row, as attached to its atom -/
def recOf (lam0 : α) (nd : Nat → Option α) (r : NsfRow) : NRec α :=
  if r.a = 0 then rowRec lam0 (nd r.z) r
  else { rowRec lam0 (nd r.z) r with abundance := match r.p with
                                                   | none => some 0
                                                   | some u => u.val }

/-- what a row's record holds: the seven numeric columns (uncertainties dropped, `<` and `*`
    read as the bare number, blanks as `none`), the E flag, the abundance (0 for a half-life),
    and the complex `b_c − i·σ_a/(2000·λ₀)` -/
theorem recOf_eq (lam0 : α) (nd : Nat → Option α) (r : NsfRow) :
    recOf lam0 nd r =
      { b_c := r.b_c.val, bp := r.bp.val, bm := r.bm.val, coherent := r.coh.val, incoherent := r.inc.val,
        total := r.tot.val, absorption := r.abs.val, isE := r.isE,
        bcc := some (r.b_c.val, -((r.abs.val (α := α)).getD 0) / (((2000 : Nat) : α) * lam0)),
        abundance := if r.a = 0 then some 0 else match r.p with
                                                 | none => some 0
                                                 | some u => u.val
        nd := nd r.z } := by
  unfold recOf
  split <;> rfl

def NsfState.ptrs (st : NsfState α) : Ptrs := ⟨st.next, st.elRec, st.isoRec⟩

theorem NsfState.elId_ptrs (st : NsfState α) (z : Nat) : st.ptrs.elId z = st.elId z := rfl
theorem NsfState.isoId_ptrs (st : NsfState α) (z a : Nat) : st.ptrs.isoId z a = st.isoId z a := rfl

section
variable {lam0 : α} {nd : Nat → Option α} (st : NsfState α) {r : NsfRow}

/-- one row: a new record, the pointers of `ptrStep` and, for an isotope row, its spin and
    `add_isotope` -/
theorem nsfStep_eq : nsfStep lam0 nd st r =
    { recs := (st.next, recOf lam0 nd r) :: st.recs
      next := (ptrStep st.ptrs r).next, elRec := (ptrStep st.ptrs r).elRec, isoRec := (ptrStep st.ptrs r).isoRec
      spin := if r.a = 0 then st.spin else ((r.z, r.a), r.spin) :: st.spin
      isotopes := if r.a = 0 then st.isotopes else (r.z, r.a) :: st.isotopes } := by
  unfold nsfStep recOf ptrStep
  split <;> rfl

theorem nsfStep_ptrs : (nsfStep lam0 nd st r).ptrs = ptrStep st.ptrs r := by
  rw [nsfStep_eq]
  rfl

theorem nsfStep_next : (nsfStep lam0 nd st r).next = st.next + 1 :=
  (congrArg Ptrs.next (nsfStep_ptrs st)).trans (ptrStep_next _ _)

theorem getRec_nsfStep (id : Nat) :
    (nsfStep lam0 nd st r).getRec id = if st.next = id then recOf lam0 nd r else st.getRec id := by
  rw [nsfStep_eq]
  unfold NsfState.getRec
  rw [aget_cons]
  split <;> rfl

variable {rows pre post : List NsfRow}

theorem fold_ptrs : (rows.foldl (nsfStep lam0 nd) st).ptrs = rows.foldl ptrStep st.ptrs :=
  (List.foldl_hom NsfState.ptrs fun s _ => (nsfStep_ptrs s).symm).symm

theorem fold_getRec_old (id : Nat) (h : id < st.next) :
    (rows.foldl (nsfStep lam0 nd) st).getRec id = st.getRec id := by
  induction rows generalizing st with
  | nil => rfl
  | cons r rows ih =>
    rw [List.foldl_cons, ih _ (by rw [nsfStep_next]; exact Nat.lt_succ_of_lt h), getRec_nsfStep,
      if_neg (Nat.ne_of_gt h)]

theorem fold_getRec_new :
    ((pre ++ r :: post).foldl (nsfStep lam0 nd) st).getRec (st.next + pre.length) = recOf lam0 nd r := by
  have hn : (pre.foldl (nsfStep lam0 nd) st).next = st.next + pre.length :=
    (congrArg Ptrs.next (fold_ptrs st)).trans (ptrFold_next st.ptrs)
  rw [List.foldl_append, List.foldl_cons, ← hn,
    fold_getRec_old _ _ (by rw [nsfStep_next]; exact Nat.lt_succ_self _), getRec_nsfStep,
    if_pos rfl]

theorem fold_spin (k : Nat × Nat) :
    aget k (rows.foldl (nsfStep lam0 nd) st).spin
      = lastOf (fun x : NsfRow => x.a ≠ 0 ∧ (x.z, x.a) = k) (fun x => some x.spin) rows (aget k st.spin) := by
  refine foldl_lastOf (fun s : NsfState α => aget k s.spin) (fun s x => ?_) rows st
  rw [nsfStep_eq]
  show aget k (if x.a = 0 then s.spin else _) = _
  by_cases ha : x.a = 0
  · rw [if_pos ha, if_neg fun c => c.1 ha]
  · rw [if_neg ha, aget_cons]
    exact ite_congr (propext (iff_and_self.mpr fun _ => ha)) (fun _ => rfl) (fun _ => rfl)

/-- every isotope row adds its isotope (`add_isotope`), and no step removes one -/
theorem fold_isotopes_mem (k : Nat × Nat) (h : ∃ r ∈ rows, r.a ≠ 0 ∧ (r.z, r.a) = k) :
    k ∈ (rows.foldl (nsfStep lam0 nd) st).isotopes := by
  obtain ⟨r, hr, ha, rfl⟩ := h
  obtain ⟨pre, post, rfl⟩ := List.append_of_mem hr
  rw [List.foldl_append]
  refine foldl_rel (fun a b : NsfState α => (r.z, r.a) ∈ a.isotopes → (r.z, r.a) ∈ b.isotopes)
    (fun _ h => h) (fun h1 h2 h => h2 (h1 h)) post _ (fun s x _ h => ?_) ?_
  · rw [nsfStep_eq]
    split
    · exact h
    · exact List.mem_cons_of_mem _ h
  · rw [nsfStep_eq]
    show _ ∈ if r.a = 0 then _ else _
    rw [if_neg ha]
    exact List.mem_cons_self

end

def Nsf.mainPass (env : NsfEnv α) (t : NsfTables) : NsfState α :=
  t.rows.foldl (nsfStep env.lam0 env.nd) NsfState.fresh

theorem mainPass_ptrs (env : NsfEnv α) (t : NsfTables) : (Nsf.mainPass env t).ptrs = ptrs t.rows :=
  fold_ptrs NsfState.fresh

theorem mainPass_getRec (env : NsfEnv α) (t : NsfTables) (i : Nat) (r : NsfRow)
    (h : t.rows[i]? = some r) : (Nsf.mainPass env t).getRec (i + 1) = recOf env.lam0 env.nd r := by
  obtain ⟨pre, post, hsplit, rfl⟩ := split_at_index t.rows i r h
  unfold Nsf.mainPass
  rw [hsplit, Nat.add_comm]
  exact fold_getRec_new NsfState.fresh

theorem mainPass_getRec_zero (env : NsfEnv α) (t : NsfTables) :
    (Nsf.mainPass env t).getRec 0 = NRec.missing :=
  fold_getRec_old NsfState.fresh 0 Nat.one_pos

/-! ## later passes only rewrite records -/

/-- the fields no later pass writes -/
def NRec.rowPart (r : NRec α) :=
  (r.bp, r.bm, r.coherent, r.incoherent, r.absorption, r.isE, r.abundance, r.bcc, r.nd)

def NRec.imag (r : NRec α) := (r.b_c_i, r.bp_i, r.bm_i)

theorem getRec_setRec (st : NsfState α) (i j : Nat) (r : NRec α) :
    (st.setRec i r).getRec j = if i = j then r else st.getRec j := by
  unfold NsfState.setRec NsfState.getRec
  rw [aget_cons]
  split <;> rfl

@[simp] theorem setRec_elId (st : NsfState α) (i : Nat) (r : NRec α) (z : Nat) :
    (st.setRec i r).elId z = st.elId z := rfl
@[simp] theorem setRec_isoId (st : NsfState α) (i : Nat) (r : NRec α) (z a : Nat) :
    (st.setRec i r).isoId z a = st.isoId z a := rfl
@[simp] theorem setRec_spin (st : NsfState α) (i : Nat) (r : NRec α) : (st.setRec i r).spin = st.spin := rfl
@[simp] theorem setRec_isotopes (st : NsfState α) (i : Nat) (r : NRec α) :
    (st.setRec i r).isotopes = st.isotopes := rfl

/-- later passes do not create or remove isotopes -/
theorem modify_isotopes (st : NsfState α) (i : Nat) (f : NRec α → NRec α) :
    (st.modify i f).isotopes = st.isotopes := rfl

theorem getRec_modify (st : NsfState α) (i j : Nat) (f : NRec α → NRec α) :
    (st.modify i f).getRec j = if i = j then f (st.getRec j) else st.getRec j := by
  unfold NsfState.modify
  rw [getRec_setRec]
  split
  · rename_i h
    rw [h]
  · rfl

/-- the step of a later pass: rewrite the record `tgt` names, if it names one -/
def NsfState.write (st : NsfState α) (tgt : Option Nat) (g : NRec α → NRec α) : NsfState α :=
  match tgt with
  | none => st
  | some id => st.modify id g

theorem write_ptrs (st : NsfState α) (tgt : Option Nat) (g : NRec α → NRec α) :
    (st.write tgt g).ptrs = st.ptrs := by
  cases tgt <;> rfl

theorem getRec_write (st : NsfState α) (tgt : Option Nat) (j : Nat) (g : NRec α → NRec α) :
    (st.write tgt g).getRec j = if tgt = some j then g (st.getRec j) else st.getRec j := by
  cases tgt with
  | none => rfl
  | some i =>
    exact (getRec_modify st i j g).trans
      (ite_congr (propext Option.some_inj.symm) (fun _ => rfl) (fun _ => rfl))

/-- `st'` is `st` with some records rewritten, in a way `π` does not see: atoms point where they
    did, spins and the list of isotopes are the same, and `π` of every record is -/
structure Agree {β : Type} (π : NRec α → β) (st st' : NsfState α) : Prop where
  same_ptrs : st'.ptrs = st.ptrs
  spin : st'.spin = st.spin
  isotopes : st'.isotopes = st.isotopes
  proj : ∀ id, π (st'.getRec id) = π (st.getRec id)

section
variable {β : Type} {π : NRec α → β}

theorem Agree.refl (st : NsfState α) : Agree π st st := ⟨rfl, rfl, rfl, fun _ => rfl⟩

theorem Agree.trans {a b c : NsfState α} (h1 : Agree π a b) (h2 : Agree π b c) : Agree π a c :=
  ⟨h2.same_ptrs.trans h1.same_ptrs, h2.spin.trans h1.spin, h2.isotopes.trans h1.isotopes,
   fun id => (h2.proj id).trans (h1.proj id)⟩

theorem Agree.modify (st : NsfState α) (i : Nat) (g : NRec α → NRec α) (h : ∀ r, π (g r) = π r) :
    Agree π st (st.modify i g) :=
  ⟨rfl, rfl, rfl, fun id => by
    rw [getRec_modify]
    split
    · exact h _
    · rfl⟩

theorem Agree.write (st : NsfState α) (tgt : Option Nat) (g : NRec α → NRec α) (h : ∀ r, π (g r) = π r) :
    Agree π st (st.write tgt g) := by
  cases tgt with
  | none => exact .refl st
  | some i => exact .modify st i g h

end

/-! The imaginary table and the energy-dependent tables are read by folds whose step is a `write`:
the target is chosen from the pointers (which no `write` changes), the new fields from the row. -/

section
variable {ρ : Type} {step : NsfState α → ρ → NsfState α} {tgt : Ptrs → ρ → Option Nat}
  {g : ρ → NRec α → NRec α} (hstep : ∀ st x, step st x = st.write (tgt st.ptrs x) (g x))
  {β : Type}
include hstep

theorem Agree.foldl_write {π : NRec α → β} (h : ∀ x r, π (g x r) = π r) (l : List ρ) (st : NsfState α) :
    Agree π st (l.foldl step st) :=
  foldl_rel (Agree π) .refl .trans l st fun st x _ => hstep st x ▸ .write st _ _ (h x)

/-- where the rows set `π` of their record to `v x`, a record reports the value of the last row
    that names it, else what it had -/
theorem getRec_foldl_write (π : NRec α → β) (v : ρ → β) (h : ∀ x r, π (g x r) = v x) (l : List ρ)
    (st : NsfState α) (id : Nat) :
    π ((l.foldl step st).getRec id) = lastOf (fun x => tgt st.ptrs x = some id) v l (π (st.getRec id)) := by
  refine foldl_lastOf_of_inv (p := fun x => tgt st.ptrs x = some id) (F := v)
    (fun s => s.ptrs = st.ptrs) (fun s => π (s.getRec id)) (fun s x hs => ?_) (fun s x hs => ?_) l st rfl
  · rw [hstep, write_ptrs]
    exact hs
  · rw [hstep, getRec_write, hs, apply_ite π, h]

end

/-- the Xe step of `gapFill` -/
def xeFill (rx : NRec α) : NRec α :=
  { rx with total := match rx.coherent, rx.incoherent with
                     | some c, some i => some (c + i)
                     | _, _ => none }

/-- the Eu-151 step of `gapFill` -/
def euFill (re : NRec α) : NRec α :=
  { re with b_c := re.coherent.map fun c => Transc.sqrt (c / fourPi100) }

def imagFill (x : NsfIRow) (rc : NRec α) : NRec α :=
  { rc with b_c_i := x.b_c_i.val, bp_i := x.bp_i.val, bm_i := x.bm_i.val }

def tableFill (tbl : List (α × Cx α)) (rc : NRec α) : NRec α := { rc with table := some tbl }

/-- the record an imaginary-table row writes to -/
def itarget (p : Ptrs) (x : NsfIRow) : Nat := if x.a = 0 then p.elId x.z else p.isoId x.z x.a

/-- the record an energy-dependent table is attached to -/
def etarget (zOf : Nat → Option Nat) (p : Ptrs) (e : EDTable) : Option Nat :=
  (zOf e.sym).map fun z => if e.a = 0 then p.elId z else p.isoId z e.a

theorem gapFill_eq (st : NsfState α) :
    gapFill st = (st.modify (st.elId 54) xeFill).modify (st.isoId 63 151) euFill := rfl

theorem nsfIStep_eq (st : NsfState α) (x : NsfIRow) :
    nsfIStep st x = st.write (some (itarget st.ptrs x)) (imagFill x) := by
  unfold nsfIStep itarget
  split <;> rfl

theorem edStep_eq (zOf : Nat → Option Nat) (ef : α) (st : NsfState α) (e : EDTable) :
    edStep zOf ef st e = st.write (etarget zOf st.ptrs e) (tableFill (edTable ef e.rows)) := by
  unfold edStep etarget
  cases zOf e.sym with
  | none => rfl
  | some z =>
    show NsfState.modify _ _ _ = NsfState.modify _ _ _
    split <;> rfl

theorem luMix_cases (a b : α) (st : NsfState α) :
    luMix a b st = st ∨ ∃ tbl, luMix a b st = st.modify (st.elId 71) (tableFill tbl) := by
  unfold luMix
  split
  · exact .inr ⟨_, rfl⟩
  · exact .inl rfl

section
variable {β : Type} {π : NRec α → β}

theorem gapFill_agree (hx : ∀ r, π (xeFill r) = π r) (he : ∀ r, π (euFill r) = π r) (st : NsfState α) :
    Agree π st (gapFill st) :=
  (Agree.modify st _ _ hx).trans (Agree.modify _ _ _ he)

theorem ifold_agree (h : ∀ x r, π (imagFill x r) = π r) (l : List NsfIRow) (st : NsfState α) :
    Agree π st (l.foldl nsfIStep st) :=
  Agree.foldl_write (tgt := fun p x => some (itarget p x)) nsfIStep_eq h l st

theorem efold_agree (h : ∀ tbl r, π (tableFill tbl r) = π r) (zOf : Nat → Option Nat) (ef : α)
    (l : List EDTable) (st : NsfState α) : Agree π st (l.foldl (edStep zOf ef) st) :=
  Agree.foldl_write (edStep_eq zOf ef) (fun _ => h _) l st

theorem luMix_agree (h : ∀ tbl r, π (tableFill tbl r) = π r) (a b : α) (st : NsfState α) :
    Agree π st (luMix a b st) := by
  rcases luMix_cases a b st with e | ⟨tbl, e⟩ <;> rw [e]
  · exact .refl _
  · exact .modify _ _ _ (h _)

end

/-! ## the loader: main pass, then the four passes that only rewrite records -/

theorem Nsf.loadRows_eq (env : NsfEnv α) (t : NsfTables) :
    Nsf.loadRows env t
      = luMix ((env.ab175).getD 0) ((env.ab176).getD 0)
          (t.ed.foldl (edStep env.zOf env.ef) (t.irows.foldl nsfIStep (gapFill (Nsf.mainPass env t)))) :=
  rfl

section
variable {β : Type} {π : NRec α → β} (env : NsfEnv α) (t : NsfTables) (st : NsfState α)

theorem afterImag_agree (ht : ∀ tbl r, π (tableFill tbl r) = π r) :
    Agree π st (luMix ((env.ab175).getD 0) ((env.ab176).getD 0) (t.ed.foldl (edStep env.zOf env.ef) st)) :=
  (efold_agree ht _ _ _ _).trans (luMix_agree ht _ _ _)

theorem afterGap_agree (hi : ∀ x r, π (imagFill x r) = π r) (ht : ∀ tbl r, π (tableFill tbl r) = π r) :
    Agree π st (luMix ((env.ab175).getD 0) ((env.ab176).getD 0)
      (t.ed.foldl (edStep env.zOf env.ef) (t.irows.foldl nsfIStep st))) :=
  (ifold_agree hi _ _).trans (afterImag_agree env t _ ht)

theorem Nsf.loadRows_agree (hx : ∀ r, π (xeFill r) = π r) (he : ∀ r, π (euFill r) = π r)
    (hi : ∀ x r, π (imagFill x r) = π r) (ht : ∀ tbl r, π (tableFill tbl r) = π r) :
    Agree π (Nsf.mainPass env t) (Nsf.loadRows env t) :=
  (gapFill_agree hx he _).trans (afterGap_agree env t _ hi ht)

end

theorem Nsf.loadRows_rowPart (env : NsfEnv α) (t : NsfTables) :
    Agree NRec.rowPart (Nsf.mainPass env t) (Nsf.loadRows env t) :=
  Nsf.loadRows_agree env t (fun _ => rfl) (fun _ => rfl) (fun _ _ => rfl) (fun _ _ => rfl)

/-- the loader's pointers are those of `ptrs t.rows`, whatever the number type -/
theorem Nsf.loadRows_ptrs (env : NsfEnv α) (t : NsfTables) : (Nsf.loadRows env t).ptrs = ptrs t.rows :=
  (Nsf.loadRows_rowPart env t).same_ptrs.trans (mainPass_ptrs env t)

theorem Nsf.loadRows_elId (env : NsfEnv α) (t : NsfTables) (z : Nat) :
    (Nsf.loadRows env t).elId z = (ptrs t.rows).elId z :=
  congrArg (·.elId z) (Nsf.loadRows_ptrs env t)

theorem Nsf.loadRows_isoId (env : NsfEnv α) (t : NsfTables) (z a : Nat) :
    (Nsf.loadRows env t).isoId z a = (ptrs t.rows).isoId z a :=
  congrArg (·.isoId z a) (Nsf.loadRows_ptrs env t)

theorem record_of_index (env : NsfEnv α) (t : NsfTables) (i : Nat) (r : NsfRow)
    (h : t.rows[i]? = some r) :
    ((Nsf.loadRows env t).getRec (i + 1)).rowPart = (recOf env.lam0 env.nd r).rowPart := by
  rw [(Nsf.loadRows_rowPart env t).proj, mainPass_getRec env t i r h]

/-! ## what the atoms report -/

section
variable (env : NsfEnv α) (t : NsfTables)

theorem absent_element_default (z : Nat) (h : ∀ x ∈ t.rows, x.z ≠ z) :
    (Nsf.loadRows env t).elId z = 0 :=
  (Nsf.loadRows_elId env t z).trans (ptrFold_elId_none ⟨1, [], []⟩ h)

theorem absent_isotope_default (z a : Nat) (h : ∀ x ∈ t.rows, x.a = 0 ∨ (x.z, x.a) ≠ (z, a)) :
    (Nsf.loadRows env t).isoId z a = 0 :=
  (Nsf.loadRows_isoId env t z a).trans (ptrFold_isoId_none ⟨1, [], []⟩ h)

/-- the shared default stays without number density, so `has_sld()` is false for every atom
    that points to it -/
theorem default_has_no_sld : ((Nsf.loadRows env t).getRec 0).hasSld = false := by
  have : ((Nsf.loadRows env t).getRec 0).nd = none := by
    rw [(Nsf.loadRows_agree (π := NRec.nd) env t (fun _ => rfl) (fun _ => rfl) (fun _ _ => rfl)
      (fun _ _ => rfl)).proj, mainPass_getRec_zero]
    rfl
  unfold NRec.hasSld
  rw [this]
  exact Bool.and_false _

theorem gapFill_b_c (st : NsfState α) (id : Nat) :
    ((gapFill st).getRec id).b_c
      = if st.isoId 63 151 = id then (euFill (st.getRec id)).b_c else (st.getRec id).b_c := by
  rw [gapFill_eq, getRec_modify, getRec_modify, apply_ite NRec.b_c]
  -- `xeFill` leaves alone what `euFill` reads (`coherent`) and writes (`b_c`)
  exact ite_congr rfl (fun _ => by split <;> rfl) (fun _ => by split <;> rfl)

theorem gapFill_total (st : NsfState α) (id : Nat) :
    ((gapFill st).getRec id).total
      = if st.elId 54 = id then (xeFill (st.getRec id)).total else (st.getRec id).total := by
  rw [gapFill_eq, (Agree.modify _ _ euFill (π := NRec.total) fun _ => rfl).proj, getRec_modify,
    apply_ite NRec.total]

/-! ### imaginary lengths and energy-dependent tables: the last row naming a record wins -/

theorem gapFill_mainPass_ptrs : (gapFill (Nsf.mainPass env t)).ptrs = ptrs t.rows := mainPass_ptrs env t

theorem imag_served (id : Nat) :
    ((Nsf.loadRows env t).getRec id).imag
      = lastOf (fun x => itarget (ptrs t.rows) x = id) (fun x => (x.b_c_i.val, x.bp_i.val, x.bm_i.val))
          t.irows ((Nsf.mainPass env t).getRec id).imag := by
  rw [Nsf.loadRows_eq, (afterImag_agree (π := NRec.imag) env t _ (fun _ _ => rfl)).proj,
    getRec_foldl_write (tgt := fun p x => some (itarget p x)) nsfIStep_eq NRec.imag
      (fun x => (x.b_c_i.val, x.bp_i.val, x.bm_i.val)) (fun _ _ => rfl),
    gapFill_mainPass_ptrs,
    (gapFill_agree (π := NRec.imag) (fun _ => rfl) (fun _ => rfl) _).proj]
  simp only [Option.some.injEq]

theorem efold_table (zOf : Nat → Option Nat) (ef : α) (l : List EDTable) (st : NsfState α) (id : Nat) :
    ((l.foldl (edStep zOf ef) st).getRec id).table
      = lastOf (fun e => etarget zOf st.ptrs e = some id) (fun e => some (edTable ef e.rows)) l
          (st.getRec id).table :=
  getRec_foldl_write (edStep_eq zOf ef) NRec.table _ (fun _ _ => rfl) l st id

theorem luMix_table_other (a b : α) (st : NsfState α) (id : Nat) (h : id ≠ st.elId 71) :
    ((luMix a b st).getRec id).table = (st.getRec id).table := by
  rcases luMix_cases a b st with e | ⟨tbl, e⟩
  · rw [e]
  · rw [e, getRec_modify, if_neg h.symm]

end

end

/-! ## vocabulary of the property statements -/

/-- elements without a row of their own and exactly one isotope row: that isotope -/
def singleIsotope (rows : List NsfRow) (z : Nat) : Option Nat :=
  match rows.filter (fun r => r.z == z) with
  | [r] => if r.a = 0 then none else some r.a
  | _ => none

/-- `element.neutron` (a = 0) or `element[a].neutron` -/
def atomRec {α : Type} [OfNat α 0] (st : NsfState α) (z a : Nat) : NRec α :=
  if a = 0 then st.elNeutron z else st.isoNeutron z a

end PtLoad
