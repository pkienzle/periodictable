import PtVerif.Proofs.LoadersNsf
import PtVerif.Proofs.LoadersField
import PtVerif.Proofs.GridSearch
/-!
# Ordered-field facts of the neutron loader (Mathlib)

`numpy.interp` on an increasing grid returns the tabulated value at every node; the eV → Å
conversion followed by the reversal turns increasing energies into increasing wavelengths.
-/
set_option linter.unusedSectionVars false
namespace PtLoad

section interp
variable {α : Type} [Field α] [LinearOrder α] [IsStrictOrderedRing α]

theorem interpGo_node (tbl : List (α × Cx α)) (hs : (tbl.map Prod.fst).Pairwise (· < ·))
    (p : α × Cx α) (hp : p ∈ tbl) : interpGo p.1 tbl = some p.2 := by
  obtain ⟨pre, post, rfl⟩ := List.append_of_mem hp
  have h := PtModel.pairwise_lt_split Prod.fst hs
  -- the search passes over the nodes left of `p` …
  rw [PtModel.scan_drop (interpGo p.1) Prod.fst p.1
    (fun a b t _ hb => by
      obtain ⟨x0, y0⟩ := a
      obtain ⟨x1, y1⟩ := b
      exact if_neg (not_lt.2 hb))
    pre p post (fun m hm => (h.1 m hm).le) le_rfl]
  -- … and at `p` returns `slope * (p.1 - p.1) + p.2`
  obtain ⟨x0, y0⟩ := p
  cases post with
  | nil => rfl
  | cons q post' =>
    obtain ⟨x1, y1⟩ := q
    show (if x0 < x1 then some (_, _) else _) = some (y0.1, y0.2)
    rw [if_pos (h.2 (x1, y1) List.mem_cons_self), sub_self, mul_zero, mul_zero, zero_add, zero_add]

theorem interp_node (tbl : List (α × Cx α)) (hs : (tbl.map Prod.fst).Pairwise (· < ·))
    (p : α × Cx α) (hp : p ∈ tbl) : interp p.1 tbl = some p.2 := by
  cases tbl with
  | nil => cases hp
  | cons q rest =>
    obtain ⟨x0, y0⟩ := q
    have hge : ¬ (p.1 < x0) := by
      rcases List.mem_cons.mp hp with rfl | hp'
      · exact lt_irrefl _
      · simp only [List.map_cons, List.pairwise_cons] at hs
        exact not_lt.mpr (le_of_lt (hs.1 p.1 (List.mem_map.mpr ⟨p, hp', rfl⟩)))
    simp only [interp, hge, if_false]
    exact interpGo_node _ hs p hp

/-- exact comparison of two decimals -/
def Dec.lt (a b : Dec) : Bool := a.m * ((10 ^ b.e : Nat) : Int) < b.m * ((10 ^ a.e : Nat) : Int)

theorem Dec.toNum_lt_of_lt (a b : Dec) (h : Dec.lt a b = true) : (a.toNum : α) < b.toNum := by
  have pos : ∀ e : Nat, (0 : α) < ((10 ^ e : Nat) : α) := fun e =>
    Nat.cast_pos.mpr (Nat.pow_pos (by decide))
  unfold Dec.lt at h
  rw [decide_eq_true_eq] at h
  have := (Int.cast_lt (R := α)).mpr h
  rw [Int.cast_mul, Int.cast_mul, Int.cast_natCast, Int.cast_natCast] at this
  unfold Dec.toNum
  rwa [div_lt_div_iff₀ (pos a.e) (pos b.e)]

/-- strictly increasing, positive decimals (kernel-checkable) -/
def decIncreasing : List Dec → Bool
  | [] => true
  | [a] => decide (0 < a.m)
  | a :: b :: l => decide (0 < a.m) && Dec.lt a b && decIncreasing (b :: l)

theorem decIncreasing_pairwise : ∀ l : List Dec, decIncreasing l = true →
    (l.map fun d => (d.toNum : α)).Pairwise (· < ·) ∧ ∀ d ∈ l, (0 : α) < d.toNum
  | [], _ => ⟨.nil, nofun⟩
  | [a], h => ⟨List.pairwise_singleton .., fun _ hd =>
      List.mem_singleton.mp hd ▸ Dec.toNum_pos a (of_decide_eq_true h)⟩
  | a :: b :: l, h => by
    rw [decIncreasing, Bool.and_eq_true, Bool.and_eq_true, decide_eq_true_eq] at h
    obtain ⟨hp, hpos⟩ := decIncreasing_pairwise (b :: l) h.2
    have hab : (a.toNum : α) < b.toNum := Dec.toNum_lt_of_lt a b h.1.2
    exact ⟨List.pairwise_cons.mpr ⟨fun x hx => (List.mem_cons.mp hx).elim (· ▸ hab)
        fun hx => hab.trans (List.rel_of_pairwise_cons hp hx), hp⟩,
      fun d hd => (List.mem_cons.mp hd).elim (· ▸ Dec.toNum_pos a h.1.1) (hpos d)⟩

end interp

/-! ## eV → Å and reversal -/

theorem table_reversed_increasing (ef : ℝ) (hef : 0 < ef) (rows : List (Dec × Dec × Dec))
    (h : decIncreasing (rows.map (·.1)) = true) :
    ((edTable ef rows).map Prod.fst).Pairwise (· < ·) := by
  obtain ⟨hp, hpos⟩ := decIncreasing_pairwise (α := ℝ) (rows.map (·.1)) h
  unfold edTable
  rw [List.map_reverse, List.pairwise_reverse, List.map_map, List.pairwise_map]
  rw [List.map_map, List.pairwise_map] at hp
  -- energies increasing ⇒ wavelengths decreasing
  refine hp.imp_of_mem fun {r x} hr hx hlt => ?_
  have hr0 : (0 : ℝ) < r.1.toNum := hpos _ (List.mem_map_of_mem hr)
  have hx0 : (0 : ℝ) < x.1.toNum := hpos _ (List.mem_map_of_mem hx)
  have hk : (0 : ℝ) < ((1000 : Nat) : ℝ) := Nat.cast_pos.mpr (by decide)
  exact Real.sqrt_lt_sqrt (le_of_lt (div_pos hef (mul_pos hx0 hk)))
    (div_lt_div_of_pos_left hef (mul_pos hr0 hk) (mul_lt_mul_of_pos_right hlt hk))

theorem edTable_mem (ef : ℝ) (rows : List (Dec × Dec × Dec)) (r : Dec × Dec × Dec) (hr : r ∈ rows) :
    (neutronWavelength ef (r.1.toNum * ((1000 : Nat) : ℝ)), ((r.2.1.toNum : ℝ), (r.2.2.toNum : ℝ)))
      ∈ edTable ef rows := by
  unfold edTable
  rw [List.mem_reverse]
  exact List.mem_map.mpr ⟨r, hr, rfl⟩

end PtLoad
