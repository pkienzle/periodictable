import PtVerif.Proofs.LoadersNsf
/-!
# `nsf.init` runs to completion on well-formed tables (core Lean only)

`Nsf.loadOk` collects the conditions under which the real loader does not raise (assertions of
the two gap fills, `-None`, `KeyError` for isotopes that do not exist, unpacking `None`).  Here
they are derived from facts about the rows, so that for the embedded table they reduce to
kernel-checked data facts.
-/
set_option linter.unusedSectionVars false
namespace PtLoad

theorem Unc.val_isSome_of_ne_missing {α : Type} [Add α] [Div α] [NatCast α] [IntCast α] (u : Unc)
    (h : u ≠ .missing) : (u.val (α := α)).isSome = true := by
  cases u with
  | missing => exact absurd rfl h
  | _ => rfl

section
variable {α : Type} [Add α] [Sub α] [Mul α] [Div α] [Neg α] [OfNat α 0] [NatCast α] [IntCast α]
  [Transc α]

theorem hasIso_of_mem (env : NsfEnv α) (st : NsfState α) (z a : Nat) (h : (z, a) ∈ st.isotopes) :
    st.hasIso env z a = true := by
  unfold NsfState.hasIso
  rw [Bool.or_eq_true, List.contains_eq_mem, decide_eq_true_eq]
  exact .inr h

theorem Unc.val_missing : (Unc.missing.val (α := α)) = none := rfl

/-- the state `luMix` is applied to -/
def Nsf.beforeLu (env : NsfEnv α) (t : NsfTables) : NsfState α :=
  t.ed.foldl (edStep env.zOf env.ef) (t.irows.foldl nsfIStep (gapFill (Nsf.mainPass env t)))

/-- the facts about a table from which `Nsf.loadOk` follows -/
structure Nsf.WellFormed (env : NsfEnv α) (t : NsfTables) : Prop where
  rows : nsfRowsOk env t.rows = true
  sym54 : (env.symOf 54).isSome = true
  sym63 : (env.symOf 63).isSome = true
  sym71 : (env.symOf 71).isSome = true
  /-- the Xe element row: no total, coherent and incoherent present -/
  xe : ∃ j r, t.rows[j]? = some r ∧ (ptrs t.rows).elId 54 = j + 1 ∧ nsfKeyOf r = (54, 0)
        ∧ r.tot = .missing ∧ r.coh ≠ .missing ∧ r.inc ≠ .missing
  /-- the Eu-151 row: no b_c, coherent present -/
  eu : ∃ j r, t.rows[j]? = some r ∧ (ptrs t.rows).isoId 63 151 = j + 1 ∧ r.a ≠ 0 ∧ nsfKeyOf r = (63, 151)
        ∧ r.b_c = .missing ∧ r.coh ≠ .missing
  /-- imaginary rows name existing elements, and isotopes that have rows -/
  irows : ∀ x ∈ t.irows, (env.symOf x.z).isSome = true ∧
            (x.a = 0 ∨ ∃ r ∈ t.rows, r.a ≠ 0 ∧ nsfKeyOf r = (x.z, x.a))
  /-- energy-dependent tables name existing elements, and isotopes that have rows -/
  ed : ∀ e ∈ t.ed, ∃ z, env.zOf e.sym = some z ∧ (e.a = 0 ∨ ∃ r ∈ t.rows, r.a ≠ 0 ∧ nsfKeyOf r = (z, e.a))
  /-- natural Lu is mixed from Lu-175 and Lu-176: both have rows … -/
  lu175 : ∃ j r, t.rows[j]? = some r ∧ (ptrs t.rows).isoId 71 175 = j + 1 ∧ r.a ≠ 0 ∧ nsfKeyOf r = (71, 175)
  lu176 : ∃ r ∈ t.rows, r.a ≠ 0 ∧ nsfKeyOf r = (71, 176)
  /-- … Lu-176 has an energy-dependent table (the last one attached to its record) … -/
  lu176tbl : ∃ pre e post, t.ed = pre ++ e :: post
      ∧ etarget env.zOf (ptrs t.rows) e = some ((ptrs t.rows).isoId 71 176)
      ∧ ∀ y ∈ post, etarget env.zOf (ptrs t.rows) y ≠ some ((ptrs t.rows).isoId 71 176)
  /-- … and both have mass-table abundances -/
  ab : env.ab175.isSome = true ∧ env.ab176.isSome = true

theorem Nsf.loadOk_eq (env : NsfEnv α) (t : NsfTables) :
    Nsf.loadOk env t =
      (nsfRowsOk env t.rows && gapFillOk env (Nsf.mainPass env t)
        && nsfIRowsOk env (gapFill (Nsf.mainPass env t)) t.irows
        && edOk env (t.irows.foldl nsfIStep (gapFill (Nsf.mainPass env t))) t.ed
        && luOk env (Nsf.beforeLu env t) && ((Nsf.beforeLu env t).isoNeutron 71 175).bcc.isSome
        && ((Nsf.beforeLu env t).isoNeutron 71 176).table.isSome) := rfl

/-- **`nsf.init` does not raise** on a well-formed table -/
theorem Nsf.loadOk_of_wellFormed (env : NsfEnv α) (t : NsfTables) (w : Nsf.WellFormed env t) :
    Nsf.loadOk env t = true := by
  obtain ⟨jx, rx, hjx, hidx, -, hxt, hxc, hxi⟩ := w.xe
  obtain ⟨je, re, hje, hide, hea, hek, heb, hec⟩ := w.eu
  obtain ⟨jl, rl, hjl, hidl, hla, hlk⟩ := w.lu175
  -- the states the guards are evaluated in all agree with the main pass on pointers, isotopes
  -- and row parts
  have h2 := gapFill_agree (π := NRec.rowPart) (fun _ => rfl) (fun _ => rfl) (Nsf.mainPass env t)
  have h3 := h2.trans (ifold_agree (fun _ _ => rfl) t.irows _)
  have h4 : Agree NRec.rowPart _ (Nsf.beforeLu env t) :=
    h3.trans (efold_agree (fun _ _ => rfl) env.zOf env.ef t.ed _)
  have hiso : ∀ z a, (∃ r ∈ t.rows, r.a ≠ 0 ∧ nsfKeyOf r = (z, a)) →
      ∀ st : NsfState α, st.isotopes = (Nsf.mainPass env t).isotopes → st.hasIso env z a = true :=
    fun z a h st hst => hasIso_of_mem env st z a (hst ▸ fold_isotopes_mem _ _ h)
  have hrec : ∀ j r, t.rows[j]? = some r → ∀ id, id = j + 1 →
      (Nsf.mainPass env t).getRec id = recOf env.lam0 env.nd r :=
    fun j r h id e => e ▸ mainPass_getRec env t j r h
  have hp := mainPass_ptrs env t
  rw [Nsf.loadOk_eq]
  simp only [Bool.and_eq_true]
  refine ⟨⟨⟨⟨⟨⟨w.rows, ?_⟩, ?_⟩, ?_⟩, ?_⟩, ?_⟩, ?_⟩
  · unfold gapFillOk NsfState.elNeutron NsfState.isoNeutron
    simp only [Bool.and_eq_true]
    rw [hrec jx rx hjx _ (by rw [← NsfState.elId_ptrs, hp, hidx]),
      hrec je re hje _ (by rw [← NsfState.isoId_ptrs, hp, hide]), recOf_eq, recOf_eq]
    rw [hxt, heb]
    exact ⟨⟨⟨⟨⟨⟨⟨w.sym54, rfl⟩, Unc.val_isSome_of_ne_missing _ hxc⟩, Unc.val_isSome_of_ne_missing _ hxi⟩,
      w.sym63⟩, hiso _ _ ⟨re, List.mem_of_getElem? hje, hea, hek⟩ _ rfl⟩, rfl⟩,
      Unc.val_isSome_of_ne_missing _ hec⟩
  · unfold nsfIRowsOk
    rw [List.all_eq_true]
    intro x hx
    obtain ⟨h1, hx2⟩ := w.irows x hx
    rw [Bool.and_eq_true, Bool.or_eq_true, beq_iff_eq]
    exact ⟨h1, hx2.imp_right fun h => hiso _ _ h _ h2.isotopes⟩
  · unfold edOk
    rw [List.all_eq_true]
    intro e he
    obtain ⟨z, hz, he2⟩ := w.ed e he
    rw [hz, Bool.or_eq_true, beq_iff_eq]
    exact he2.imp_right fun h => hiso _ _ h _ h3.isotopes
  · unfold luOk
    simp only [Bool.and_eq_true]
    exact ⟨⟨⟨⟨w.sym71, hiso _ _ ⟨rl, List.mem_of_getElem? hjl, hla, hlk⟩ _ h4.isotopes⟩,
      hiso _ _ w.lu176 _ h4.isotopes⟩, w.ab.1⟩, w.ab.2⟩
  · -- Lu-175 has a complex b_c: no later pass writes `bcc`, and its row gives it one
    have hb : Agree NRec.bcc (Nsf.mainPass env t) (Nsf.beforeLu env t) :=
      ((gapFill_agree (fun _ => rfl) (fun _ => rfl) _).trans (ifold_agree (fun _ _ => rfl) t.irows _)).trans
        (efold_agree (fun _ _ => rfl) env.zOf env.ef t.ed _)
    unfold NsfState.isoNeutron
    rw [← NsfState.isoId_ptrs, h4.same_ptrs, hp, hb.proj, hrec jl rl hjl _ hidl, recOf_eq]
    rfl
  · -- Lu-176 has a table
    obtain ⟨pre, e, post, hsplit, htgt, hlast⟩ := w.lu176tbl
    unfold NsfState.isoNeutron
    rw [← NsfState.isoId_ptrs, h4.same_ptrs]
    unfold Nsf.beforeLu
    rw [efold_table, h3.same_ptrs, hp, hsplit, lastOf_last hlast htgt]
    rfl

/-- … so `nsf.init` returns the state the theorems about `loadRows` speak of -/
theorem Nsf.load_of_wellFormed (env : NsfEnv α) (t : NsfTables) (w : Nsf.WellFormed env t) :
    Nsf.load env t = some (Nsf.loadRows env t) := by
  unfold Nsf.load
  rw [if_pos (Nsf.loadOk_of_wellFormed env t w)]

end

end PtLoad
