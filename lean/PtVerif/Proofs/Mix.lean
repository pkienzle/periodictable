import PtVerif.Model.Mix
import PtVerif.Proofs.Formula

/-! For C11.  A mixture is the accumulation `Σ (kᵢ/scale)·fᵢ`; when `kᵢ` formula units of component `i`
weigh `gᵢ` it weighs `Σ gᵢ/scale` (`mix_mass`): by weight `g = q`, by volume `g = qρ`. -/
namespace PtModel

section Sum
variable {α : Type} [Field α] [DecidableEq α]

theorem sumOf_eq [LT α] [DecidableRel (α := α) (· < ·)] (l : List α) : sumOf l = l.sum := by
  -- in exact arithmetic the compensation term stays 0, so the loop is the plain running sum
  have step : ∀ s x : α, sumStep (s, 0) x = (s + x, 0) := fun s x => by
    unfold sumStep
    split <;> simp
  have run : l.foldl sumStep (0, 0) = (l.foldl (fun s x => s + id x) 0, 0) :=
    List.foldl_hom (fun s : α => (s, (0 : α))) step
  rw [sumOf, run, foldl_add_eq_sum, List.map_id, zero_add]
  simp

end Sum

section Accumulate
variable {α : Type} [CommSemiring α] [DecidableEq α]

theorem accumulate_fold_flatMass (w : Atom → α) (parts : List (α × FVal α)) (acc : Items α) :
    (parts.foldl (fun acc p => addS acc (rmulS p.1 p.2.s)) acc).flatMass w
      = acc.flatMass w + (parts.map fun p => p.2.s.flatMass w * p.1).sum := by
  induction parts generalizing acc with
  | nil => simp
  | cons p r ih =>
    rw [List.foldl_cons, ih, addS, Items.flatMass_append, flatMass_rmulS, List.map_cons, List.sum_cons,
      add_assoc]

theorem accumulate_flatMass (w : Atom → α) (parts : List (α × FVal α)) :
    (accumulate parts).flatMass w = (parts.map fun p => p.2.s.flatMass w * p.1).sum := by
  rw [accumulate, accumulate_fold_flatMass, Items.flatMass, zero_add]

theorem accumulate_cnt (parts : List (α × FVal α)) (a : Atom) :
    (accumulate parts).cnt a = (parts.map fun p => p.2.s.cnt a * p.1).sum := by
  simp only [Items.cnt_eq_flatMass, accumulate_flatMass]

omit [DecidableEq α] in
theorem flatMass_eq_mass (am : Atom → α) (f : FVal α) : f.s.flatMass am = f.mass am := by
  unfold FVal.mass; rw [Items.massOf_atoms]

end Accumulate

section Mixture
variable {α : Type} [Field α] [LinearOrder α]

/-- Python's `min` keeps the first of equal elements; in a linear order that is `min` -/
theorem minOf_cons (x : α) (r : List α) : minOf (x :: r) = r.foldl min x := by
  rw [minOf]
  congr
  funext m y
  rw [min_def]
  by_cases h : y < m
  · rw [if_pos h, if_neg (not_le.mpr h)]
  · rw [if_neg h, if_pos (not_lt.mp h)]

theorem minOf_mem (x : α) (r : List α) : minOf (x :: r) ∈ x :: r := by
  rw [minOf_cons]
  induction r generalizing x with
  | nil => exact List.mem_cons_self
  | cons y r ih =>
    rw [List.foldl_cons]
    rcases List.mem_cons.mp (ih (min x y)) with h | h
    · rw [h]
      rcases min_choice x y with e | e
      · rw [e]; exact List.mem_cons_self
      · rw [e]; exact List.mem_cons_of_mem _ List.mem_cons_self
    · exact List.mem_cons_of_mem _ (List.mem_cons_of_mem _ h)

theorem minOf_map_pos {β : Type} (f : β → α) (l : List β) (hne : l ≠ []) (h : ∀ p ∈ l, 0 < f p) :
    0 < minOf (l.map f) := by
  cases l with
  | nil => exact absurd rfl hne
  | cons x r => exact List.forall_mem_map.mpr h _ (minOf_mem (f x) (r.map f))

theorem kept_pos (pairs : List (FVal α × α)) (p : FVal α × α) (hp : p ∈ kept pairs) : 0 < p.2 :=
  of_decide_eq_true (List.mem_filter.mp hp).2

theorem kept_idem (pairs : List (FVal α × α)) : kept (kept pairs) = kept pairs := by
  unfold kept; simp only [List.filter_filter, Bool.and_self]

theorem mixByWeight_of_ne (am : Atom → α) (pairs : List (FVal α × α)) (hne : kept pairs ≠ []) :
    mixByWeight am pairs = ⟨weightStruct am (kept pairs), weightDensity am (kept pairs)⟩ := by
  unfold mixByWeight
  have : (kept pairs).isEmpty = false := by simpa using hne
  simp [this]

theorem component_mass (am : Atom → α) (f : FVal α) {k g : α} (sc : α) (h : f.mass am * k = g) :
    (rmulS (k / sc) f.s).flatMass am = g / sc := by
  rw [flatMass_rmulS, flatMass_eq_mass, ← mul_div_assoc, h]

theorem mix_mass (am : Atom → α) {k g : FVal α × α → α} {sc : α} (ps : List (FVal α × α))
    (h : ∀ p ∈ ps, p.1.mass am * k p = g p) :
    massOf am (accumulate (ps.map fun p => (k p / sc, p.1))).atoms = (ps.map g).sum / sc := by
  rw [Items.massOf_atoms, accumulate_flatMass, List.map_map, div_eq_mul_inv, ← List.sum_map_mul_right]
  congr 1
  refine List.map_congr_left fun p hp => ?_
  rw [Function.comp, flatMass_eq_mass, ← mul_div_assoc, h p hp, div_eq_mul_inv]

theorem weightStruct_mass (am : Atom → α) (ps : List (FVal α × α))
    (hm : ∀ p ∈ ps, p.1.mass am ≠ 0) :
    massOf am (weightStruct am ps).atoms = (ps.map (·.2)).sum / weightScale am ps :=
  mix_mass am ps fun p hp => mul_div_cancel₀ _ (hm p hp)

theorem weight_component_mass (am : Atom → α) (sc : α) (p : FVal α × α) (hm : p.1.mass am ≠ 0) :
    (rmulS ((p.2 / p.1.mass am) / sc) p.1.s).flatMass am = p.2 / sc :=
  component_mass am p.1 sc (mul_div_cancel₀ _ hm)

theorem weightStruct_counts (am : Atom → α) (ps : List (FVal α × α)) (a : Atom) :
    lookupD (weightStruct am ps).atoms a =
      (ps.map fun p => p.1.s.cnt a * ((p.2 / p.1.mass am) / weightScale am ps)).sum := by
  rw [Items.lookupD_atoms]
  unfold weightStruct
  rw [accumulate_cnt]
  simp only [List.map_map]; rfl

theorem weightDensity_eq (am : Atom → α) (ps : List (FVal α × α)) (hs : weightScale am ps ≠ 0)
    (hm : ∀ p ∈ ps, p.1.mass am ≠ 0) (hd : ps.all (fun p => p.1.hasDensity) = true) :
    weightDensity am ps = some ((ps.map (·.2)).sum / (ps.map fun p => p.2 / p.1.dens).sum) := by
  rw [weightDensity, if_pos hd, weightStruct_mass am ps hm, sumOf_eq, div_div_div_cancel_right₀ hs]

theorem weightDensity_unknown (am : Atom → α) (ps : List (FVal α × α))
    (hd : ps.all (fun p => p.1.hasDensity) = false) : weightDensity am ps = none := by
  unfold weightDensity; simp [hd]

theorem mixByVolume_of_ne (am : Atom → α) (pairs : List (FVal α × α)) (hne : kept pairs ≠ [])
    (hd : (kept pairs).all (fun p => p.1.hasDensity) = true) :
    mixByVolume am pairs =
      some ⟨volumeStruct am (kept pairs), some (volumeDensity am (kept pairs))⟩ := by
  unfold mixByVolume
  have : (kept pairs).isEmpty = false := by simpa using hne
  simp [this, hd]

theorem volume_component_volume (am : Atom → α) (sc : α) (p : FVal α × α)
    (hm : p.1.mass am ≠ 0) (hρ : p.1.dens ≠ 0) :
    (rmulS ((p.2 * p.1.dens / p.1.mass am) / sc) p.1.s).flatMass am / p.1.dens = p.2 / sc := by
  rw [component_mass am p.1 sc (mul_div_cancel₀ _ hm), div_right_comm, mul_div_cancel_right₀ _ hρ]

theorem volumeStruct_mass (am : Atom → α) (ps : List (FVal α × α))
    (hm : ∀ p ∈ ps, p.1.mass am ≠ 0) :
    massOf am (volumeStruct am ps).atoms = (ps.map fun p => p.2 * p.1.dens).sum / volumeScale am ps :=
  mix_mass am ps fun p hp => mul_div_cancel₀ _ (hm p hp)

theorem volumeDensity_eq (am : Atom → α) (ps : List (FVal α × α)) (hs : volumeScale am ps ≠ 0)
    (hm : ∀ p ∈ ps, p.1.mass am ≠ 0) :
    volumeDensity am ps = (ps.map fun p => p.2 * p.1.dens).sum / (ps.map (·.2)).sum := by
  rw [volumeDensity, volumeStruct_mass am ps hm, sumOf_eq, div_div_div_cancel_right₀ hs]

/-- `k * f` as a formula value (same density) -/
def FVal.scaled (k : α) (f : FVal α) : FVal α := ⟨rmulS k f.s, f.density⟩

theorem FVal.scaled_mass (am : Atom → α) (k : α) (f : FVal α) : (f.scaled k).mass am = f.mass am * k := by
  unfold FVal.mass FVal.scaled
  simp only [Items.massOf_atoms, flatMass_rmulS]

end Mixture

section Ordered
variable {α : Type} [Field α] [LinearOrder α] [IsStrictOrderedRing α]

theorem weightScale_pos (am : Atom → α) (ps : List (FVal α × α)) (hne : ps ≠ [])
    (hq : ∀ p ∈ ps, 0 < p.2) (hm : ∀ p ∈ ps, 0 < p.1.mass am) : 0 < weightScale am ps :=
  minOf_map_pos _ ps hne fun p hp => div_pos (hq p hp) (hm p hp)

theorem volumeScale_pos (am : Atom → α) (ps : List (FVal α × α)) (hne : ps ≠ [])
    (hq : ∀ p ∈ ps, 0 < p.2) (hm : ∀ p ∈ ps, 0 < p.1.mass am) (hρ : ∀ p ∈ ps, 0 < p.1.dens) :
    0 < volumeScale am ps :=
  minOf_map_pos _ ps hne fun p hp => div_pos (mul_pos (hq p hp) (hρ p hp)) (hm p hp)

theorem minOf_map_mul (c : α) (hc : 0 < c) (l : List α) : minOf (l.map (c * ·)) = c * minOf l := by
  cases l with
  | nil => exact (mul_zero c).symm
  | cons x r =>
    rw [List.map_cons, minOf_cons, minOf_cons, List.foldl_map]
    exact List.foldl_hom (c * ·) fun x y => (mul_min_of_nonneg x y hc.le).symm

def scaleQ (c : α) (pairs : List (FVal α × α)) : List (FVal α × α) := pairs.map fun p => (p.1, c * p.2)

theorem kept_scaleQ (c : α) (hc : 0 < c) (pairs : List (FVal α × α)) :
    kept (scaleQ c pairs) = scaleQ c (kept pairs) := by
  rw [kept, scaleQ, List.filter_map, kept, scaleQ]
  refine congrArg _ (List.filter_congr fun p _ => ?_)
  exact decide_eq_decide.mpr (mul_pos_iff_of_pos_left hc)

theorem weightScale_scaleQ (am : Atom → α) (c : α) (hc : 0 < c) (ps : List (FVal α × α)) :
    weightScale am (scaleQ c ps) = c * weightScale am ps := by
  rw [weightScale, weightScale, ← minOf_map_mul c hc, scaleQ, List.map_map, List.map_map]
  exact congrArg minOf (List.map_congr_left fun p _ => mul_div_assoc c p.2 _)

/-- every multiplier `(q/m)/scale` is unchanged when all `q`, and with them the scale, grow by `c` -/
theorem weightStruct_scaleQ (am : Atom → α) (c : α) (hc : 0 < c) (ps : List (FVal α × α)) :
    weightStruct am (scaleQ c ps) = weightStruct am ps := by
  rw [weightStruct, weightScale_scaleQ am c hc ps, scaleQ, List.map_map, weightStruct]
  refine congrArg accumulate (List.map_congr_left fun p _ => ?_)
  simp only [Function.comp, mul_div_assoc, mul_div_mul_left _ _ hc.ne']

theorem weightDensity_scaleQ (am : Atom → α) (c : α) (hc : 0 < c) (ps : List (FVal α × α)) :
    weightDensity am (scaleQ c ps) = weightDensity am ps := by
  have hall : (scaleQ c ps).all (fun p => p.1.hasDensity) = ps.all (fun p => p.1.hasDensity) := by
    rw [scaleQ, List.all_map]; rfl
  have hsum : (scaleQ c ps).map (fun p => p.2 / p.1.dens) = (ps.map fun p => p.2 / p.1.dens).map (c * ·) := by
    rw [scaleQ, List.map_map, List.map_map]; exact List.map_congr_left fun p _ => mul_div_assoc _ _ _
  rw [weightDensity, weightDensity, weightStruct_scaleQ am c hc ps, weightScale_scaleQ am c hc ps,
    hall, hsum, sumOf_eq, sumOf_eq, List.sum_map_mul_left, List.map_id', mul_div_mul_left _ _ hc.ne']

theorem mixByWeight_scaleQ (am : Atom → α) (c : α) (hc : 0 < c) (pairs : List (FVal α × α)) :
    mixByWeight am (scaleQ c pairs) = mixByWeight am pairs := by
  have he : (scaleQ c (kept pairs)).isEmpty = (kept pairs).isEmpty := List.isEmpty_map
  rw [mixByWeight, kept_scaleQ c hc, he, weightStruct_scaleQ am c hc, weightDensity_scaleQ am c hc, mixByWeight]

end Ordered
end PtModel
