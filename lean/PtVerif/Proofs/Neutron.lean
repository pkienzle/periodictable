import PtVerif.Model.Neutron
import PtVerif.Proofs.Dict
import Mathlib.Analysis.SpecialFunctions.Trigonometric.Basic
import Mathlib.Analysis.SpecialFunctions.Log.Basic
/-!
# The neutron model at `ℝ` (C03; the base of C04, C16, C17)

`neutron_scattering` is a loop over the atoms and an arithmetic tail.  The loop that returns `None`
at the first atom without data is the plain loop behind the `has_sld` test (`foldl_sumStep`), and
over atoms with data its four accumulators are five real `wsum`s (`sums`; `b_c` is complex).  The
tail `finish` is treated on an arbitrary accumulator.  So a change of the atom list reaches the
result only through `AllData` and `wsum` (`neutronScattering_congr`), and the documented equations
are a statement about five reals (`calculateScattering_eq_doc`).
-/
namespace PtProofs.Neutron
-- `Model/Density` (behind `Proofs/Dict`) has a `hasKey`, `setKey`, `cellVolume`, `naturalMassRatio`
-- of its own in `PtModel`; here these names mean those of `PtModel.Neutron`
open PtModel hiding hasKey setKey cellVolume naturalMassRatio
open PtModel.Neutron

/-- the real interpretation of the non-algebraic operations of the models -/
noncomputable instance instTranscReal : Transc ℝ :=
  ⟨Real.exp, Real.log, Real.sqrt, Real.cos, Real.pi, fun x => |x|⟩

@[simp] theorem sqrt_def (x : ℝ) : (Transc.sqrt x : ℝ) = Real.sqrt x := rfl
@[simp] theorem pi_def : (Transc.pi : ℝ) = Real.pi := rfl
@[simp] theorem abs_def (x : ℝ) : (Transc.abs x : ℝ) = |x| := rfl

theorem avogadro_pos : (0 : ℝ) < PtGen.avogadro_number := by
  unfold PtGen.avogadro_number; positivity

theorem fourPi100_eq : (fourPi100 : ℝ) = 4 * Real.pi / 100 := by
  simp [fourPi100, PtGen.FOUR_PI_100]

theorem fourPi100_pos : (0 : ℝ) < fourPi100 := by
  rw [fourPi100_eq]
  positivity

theorem lambda0_pos : (0 : ℝ) < PtGen.ABSORPTION_WAVELENGTH := by
  unfold PtGen.ABSORPTION_WAVELENGTH; positivity

theorem energyFactor_pos : (0 : ℝ) < PtGen.ENERGY_FACTOR := by
  unfold PtGen.ENERGY_FACTOR PtGen.plancks_constant PtGen.electron_volt PtGen.neutron_mass
    PtGen.atomic_mass_constant
  positivity

theorem cabs_mul_self (b : Cx ℝ) : cabs b * cabs b = b.1 * b.1 + b.2 * b.2 := by
  exact Real.mul_self_sqrt (add_nonneg (mul_self_nonneg _) (mul_self_nonneg _))

theorem cabs_nonneg (b : Cx ℝ) : 0 ≤ cabs b := Real.sqrt_nonneg _

theorem wsum_nonneg {f : Atom → ℝ} {l : List (Atom × ℝ)} (h : ∀ e ∈ l, 0 ≤ f e.1 * e.2) :
    0 ≤ wsum f l :=
  List.sum_nonneg (List.forall_mem_map.mpr h)

theorem wsum_nonpos {f : Atom → ℝ} {l : List (Atom × ℝ)} (h : ∀ e ∈ l, f e.1 * e.2 ≤ 0) :
    wsum f l ≤ 0 := by
  induction l with
  | nil => exact le_rfl
  | cons e r ih =>
    exact add_nonpos (h e (by simp)) (ih fun x hx => h x (by simp [hx]))

theorem wsum_pos {f : Atom → ℝ} {l : List (Atom × ℝ)} (hne : l ≠ [])
    (h : ∀ e ∈ l, 0 < f e.1 * e.2) : 0 < wsum f l :=
  List.sum_pos _ (List.forall_mem_map.mpr h) (mt List.map_eq_nil_iff.mp hne)

theorem lookupD_nonneg {l : List (Atom × ℝ)} (h : ∀ e ∈ l, 0 ≤ e.2) (a : Atom) :
    0 ≤ lookupD l a := by
  induction l with
  | nil => exact le_rfl
  | cons e r ih =>
    simp only [lookupD]
    split
    · exact h e (by simp)
    · exact ih fun x hx => h x (by simp [hx])

theorem wsum_pos_of_total {f : Atom → ℝ} (hf : ∀ a, 0 < f a) {l : List (Atom × ℝ)}
    (h : ∀ e ∈ l, 0 ≤ e.2) (ht : 0 < wsum (fun _ => 1) l) : 0 < wsum f l := by
  induction l with
  | nil => exact absurd ht (lt_irrefl _)
  | cons e r ih =>
    have hr : ∀ x ∈ r, 0 ≤ x.2 := fun x hx => h x (by simp [hx])
    rw [wsum_cons] at ht ⊢
    rcases (h e (by simp)).eq_or_lt with h0 | h0
    · rw [← h0, mul_zero, zero_add] at ht ⊢
      exact ih hr ht
    · exact add_pos_of_pos_of_nonneg (mul_pos (hf e.1) h0)
        (wsum_nonneg fun x hx => mul_nonneg (hf x.1).le (hr x hx))

/-! ## the loop over the atoms: `has_sld` test, then four count-weighted sums -/

/-- the per-atom values of the code -/
noncomputable def pa (t : Tbl ℝ) (w : ℝ) (x : Atom) : Cx ℝ × ℝ :=
  match t.neutron x with
  | some r => scatteringByWavelength r w
  | none => ((0, 0), 0)

theorem sbw_eq_spec (r : NRec ℝ) (w : ℝ) : scatteringByWavelength r w = Spec.atom r w := by
  unfold scatteringByWavelength Spec.atom
  cases r.table with
  | none =>
    simp only [NRec.bcComplex, Spec.imB, lit]
    congr 2
    ring
  | some g =>
    simp only [cabs_mul_self, fourPi100_eq, lit, pi_def]
    congr 1
    ring

theorem pa_eq_spec (t : Tbl ℝ) (w : ℝ) (x : Atom) : pa t w x = Spec.atomOf t w x := by
  unfold pa Spec.atomOf
  cases t.neutron x <;> simp [sbw_eq_spec]

/-- for an atom without an energy-dependent table, absorption `≥ 0` gives `Im b ≤ 0` -/
theorem pa_im_nonpos {t : Tbl ℝ} {w : ℝ} {x : Atom}
    (h : ∀ r, t.neutron x = some r → r.table = none ∧ 0 ≤ r.absorption) : (pa t w x).1.2 ≤ 0 := by
  unfold pa
  cases hr : t.neutron x with
  | none => exact le_rfl
  | some r =>
    obtain ⟨ht, ha⟩ := h r hr
    simp only [scatteringByWavelength, ht, NRec.bcComplex]
    exact div_nonpos_of_nonpos_of_nonneg (neg_nonpos.mpr ha)
      (mul_nonneg (Nat.cast_nonneg _) lambda0_pos.le)

/-- all atoms of the list have a neutron record -/
def AllData (t : Tbl ℝ) (atoms : List (Atom × ℝ)) : Prop :=
  ∀ e ∈ atoms, (t.neutron e.1).isSome = true

theorem allData_iff_keys (t : Tbl ℝ) (atoms : List (Atom × ℝ)) :
    AllData t atoms ↔ ∀ a ∈ atoms.map Prod.fst, (t.neutron a).isSome = true := by
  simp only [AllData, List.forall_mem_map]

/-- the `has_sld` loop of the vector code, as a proposition -/
theorem any_missing_iff (t : Tbl ℝ) (atoms : List (Atom × ℝ)) :
    atoms.any (fun e => (t.neutron e.1).isNone) = true ↔ ¬ AllData t atoms := by
  simp only [AllData, List.any_eq_true, not_forall, ← Option.not_isSome, Bool.not_eq_true',
    exists_prop, Bool.not_eq_true]

/-- the accumulator after the loop: everything a compound contributes is a `wsum` -/
noncomputable def sums (t : Tbl ℝ) (w : ℝ) (l : List (Atom × ℝ)) : Acc ℝ :=
  ⟨wsum t.atomMass l, wsum (fun _ => 1) l,
   (wsum (fun a => (pa t w a).1.1) l, wsum (fun a => (pa t w a).1.2) l),
   wsum (fun a => (pa t w a).2) l⟩

/-- the loop that gives up at the first atom without data is the plain loop (`sumsStep`, the one
    the vector code runs) behind the `has_sld` test.  `pieceStep` is `sumStep` by `rfl`, so this
    is also `_sum_piece`. -/
theorem foldl_sumStep (t : Tbl ℝ) (w : ℝ) (l : List (Atom × ℝ)) (o : Option (Acc ℝ)) :
    l.foldl (sumStep t w) o = o.bind fun a =>
      if l.any (fun e => (t.neutron e.1).isNone) then none else some (l.foldl (sumsStep t w) a) := by
  induction l generalizing o with
  | nil => cases o <;> rfl
  | cons e r ih =>
    rw [List.foldl_cons, ih, List.any_cons]
    cases o with
    | none => rfl
    | some a =>
      have : sumStep t w (some a) e
          = if (t.neutron e.1).isNone then none else some (sumsStep t w a e) := by
        unfold sumStep sumsStep; cases t.neutron e.1 <;> rfl
      rw [this]
      cases (t.neutron e.1).isNone <;> rfl

theorem foldl_sumsStep (t : Tbl ℝ) (w : ℝ) {l : List (Atom × ℝ)} (hd : AllData t l) (a : Acc ℝ) :
    l.foldl (sumsStep t w) a =
      ⟨a.molarMass + wsum t.atomMass l, a.numAtoms + wsum (fun _ => 1) l,
       (a.bc.1 + wsum (fun a => (pa t w a).1.1) l, a.bc.2 + wsum (fun a => (pa t w a).1.2) l),
       a.sigS + wsum (fun a => (pa t w a).2) l⟩ := by
  induction l generalizing a with
  | nil => simp [wsum_nil]
  | cons e r ih =>
    obtain ⟨rec, hrec⟩ := Option.isSome_iff_exists.mp (hd e (by simp))
    simp only [List.foldl_cons, sumsStep, hrec, ih fun x hx => hd x (by simp [hx]), wsum_cons, pa,
      Cx.add, Cx.smul, Acc.mk.injEq, Prod.mk.injEq]
    refine ⟨?_, ?_, ⟨?_, ?_⟩, ?_⟩ <;> ring

theorem sumsAt_allData (t : Tbl ℝ) (w : ℝ) {l : List (Atom × ℝ)} (hd : AllData t l) :
    sumsAt t w l = sums t w l := by
  simp [sumsAt, foldl_sumsStep t w hd, Acc.zero, sums]

theorem molarMassOf_eq (t : Tbl ℝ) (l : List (Atom × ℝ)) :
    molarMassOf t l = wsum t.atomMass l := massOf_eq_wsum _ l

theorem sumPiece_eq (t : Tbl ℝ) (w : ℝ) (l : List (Atom × ℝ)) :
    sumPiece t w l =
      if l.any (fun e => (t.neutron e.1).isNone) then none else some (sumsAt t w l) :=
  foldl_sumStep t w l (some Acc.zero)

theorem sumPiece_allData (t : Tbl ℝ) (w : ℝ) {l : List (Atom × ℝ)} (hd : AllData t l) :
    sumPiece t w l = some (sums t w l) := by
  rw [sumPiece_eq, if_neg (fun h => (any_missing_iff t l).mp h hd), sumsAt_allData t w hd]

theorem sumPiece_missing (t : Tbl ℝ) (w : ℝ) {l : List (Atom × ℝ)} (hd : ¬ AllData t l) :
    sumPiece t w l = none := by
  rw [sumPiece_eq, if_pos ((any_missing_iff t l).mpr hd)]

/-- the result as `_sum_piece` followed by the arithmetic tail -/
theorem neutronScattering_eq (t : Tbl ℝ) (l : List (Atom × ℝ)) (ρ w : ℝ) :
    neutronScattering t l ρ w = (sumPiece t w l).elim .missing (finish · ρ w) := by
  unfold neutronScattering
  rw [show l.foldl (sumStep t w) (some Acc.zero) = sumPiece t w l from rfl]
  cases sumPiece t w l <;> rfl

theorem neutronScattering_allData (t : Tbl ℝ) {l : List (Atom × ℝ)} (ρ w : ℝ)
    (hd : AllData t l) : neutronScattering t l ρ w = finish (sums t w l) ρ w := by
  rw [neutronScattering_eq, sumPiece_allData t w hd]
  rfl

theorem neutronScattering_missing (t : Tbl ℝ) {l : List (Atom × ℝ)} (ρ w : ℝ)
    (hd : ¬ AllData t l) : neutronScattering t l ρ w = .missing := by
  rw [neutronScattering_eq, sumPiece_missing t w hd]
  rfl

/-- the result depends on the atoms only through which of them have data and through the
    functional `f ↦ wsum f` -/
theorem neutronScattering_congr (t : Tbl ℝ) {l₁ l₂ : List (Atom × ℝ)} (ρ w : ℝ)
    (hd : AllData t l₁ ↔ AllData t l₂) (hs : ∀ f, wsum f l₁ = wsum f l₂) :
    neutronScattering t l₁ ρ w = neutronScattering t l₂ ρ w := by
  by_cases h : AllData t l₁
  · rw [neutronScattering_allData t ρ w h, neutronScattering_allData t ρ w (hd.mp h)]
    simp only [sums, hs]
  · rw [neutronScattering_missing t ρ w h, neutronScattering_missing t ρ w (mt hd.mpr h)]

theorem finish_vacuum {a : Acc ℝ} {ρ : ℝ} (w : ℝ) (hv : a.molarMass * ρ = 0) :
    finish a ρ w = .vacuum := by
  simp [finish, hv]

theorem finish_ok {a : Acc ℝ} {ρ : ℝ} (w : ℝ) (hv : a.molarMass * ρ ≠ 0) :
    finish a ρ w = .ok (calculateScattering (a.numAtoms / cellVolume a.molarMass ρ) w
      (a.bc.1 / a.numAtoms, a.bc.2 / a.numAtoms) (a.sigS / a.numAtoms)) := by
  simp [finish, hv, Cx.divS]

theorem cellVolume_pos {M ρ : ℝ} (hM : 0 < M) (hρ : 0 < ρ) : 0 < cellVolume M ρ := by
  have := avogadro_pos
  unfold cellVolume
  positivity

theorem maxZero_eq (x : ℝ) : maxZero x = if x < 0 then 0 else x := by
  unfold maxZero
  rcases lt_trichotomy x 0 with h | rfl | h
  · rw [if_neg (not_lt.mpr h.le), if_pos h]
  · simp
  · rw [if_pos h, if_neg (not_lt.mpr h.le)]

theorem maxZero_nonneg (x : ℝ) : 0 ≤ maxZero x := by
  unfold maxZero; split <;> linarith

/-- `_calculate_scattering` on a number density `N ≥ 0` and a mean scattering length with
    `Im b ≤ 0` gives the seven documented quantities (written as the docstring writes them) -/
theorem calculateScattering_eq_doc {N w re im s : ℝ} (hN : 0 ≤ N) (him : im ≤ 0) :
    calculateScattering N w (re, im) s =
      let σc : ℝ := lit 4 * Transc.pi * (re * re + im * im) / lit 100
      let σa : ℝ := -(lit 1000 * lit 4 * Transc.pi * im) / (lit 2 * Transc.pi / w)
      let σi : ℝ := if s - σc < 0 then 0 else s - σc
      { sldRe := lit 10 * N * re
        sldIm := -(lit 10 * N * im)
        sldInc := lit 10 * N * Transc.sqrt (lit 100 * σi / (lit 4 * Transc.pi))
        coh := N * σc
        abs := N * σa
        inc := N * σi
        pen := 1 / (N * s + N * σa) } := by
  have hc : fourPi100 * (cabs (re, im) * cabs (re, im))
      = lit 4 * Transc.pi * (re * re + im * im) / lit 100 := by
    rw [cabs_mul_self, fourPi100_eq]
    simp only [lit, pi_def]
    ring
  have ha : lit 2000 * Transc.abs im * w
      = -(lit 1000 * lit 4 * Transc.pi * im) / (lit 2 * Transc.pi / w) := by
    rw [abs_def, abs_of_nonpos him]
    simp only [lit, pi_def]
    by_cases hw : w = 0
    · subst hw; simp
    · field_simp; ring
  have hb (x : ℝ) : Transc.sqrt (x / fourPi100)
      = Transc.sqrt (lit 100 * x / (lit 4 * Transc.pi)) := by
    rw [fourPi100_eq]
    simp only [lit, pi_def]
    push_cast
    congr 1
    field_simp
  have hi : Transc.abs (lit 10 * N * im) = -(lit 10 * N * im) :=
    abs_of_nonpos (mul_nonpos_of_nonneg_of_nonpos (mul_nonneg (Nat.cast_nonneg _) hN) him)
  simp only [calculateScattering, hc, ha, hb, hi, maxZero_eq, Scat.mk.injEq, true_and]
  exact ⟨by ring, by rw [add_comm]⟩

/-! ## C03: the code's result is the documented one -/

/-- the documentation's `Σ n_k x_k` -/
theorem spec_sum_wsum (f : Atom → ℝ) (l : List (Atom × ℝ)) :
    Spec.sum (l.map fun e => e.2 * f e.1) = wsum f l := by
  induction l with
  | nil => rfl
  | cons e r ih => simp only [List.map_cons, Spec.sum, ih, wsum_cons, mul_comm]

theorem molarMass_spec (t : Tbl ℝ) (l : List (Atom × ℝ)) :
    Spec.molarMass t l = wsum t.atomMass l := spec_sum_wsum _ l

theorem count_spec (l : List (Atom × ℝ)) : Spec.count l = wsum (fun _ => 1) l := by
  simpa [Spec.count] using spec_sum_wsum (fun _ => 1) l

theorem reB_spec (t : Tbl ℝ) (l : List (Atom × ℝ)) (w : ℝ) :
    Spec.reB t l w = wsum (fun a => (pa t w a).1.1) l / wsum (fun _ => 1) l := by
  simp only [Spec.reB, count_spec, ← pa_eq_spec, spec_sum_wsum fun a => (pa t w a).1.1]

theorem imBc_spec (t : Tbl ℝ) (l : List (Atom × ℝ)) (w : ℝ) :
    Spec.imBc t l w = wsum (fun a => (pa t w a).1.2) l / wsum (fun _ => 1) l := by
  simp only [Spec.imBc, count_spec, ← pa_eq_spec, spec_sum_wsum fun a => (pa t w a).1.2]

theorem sigmaS_spec (t : Tbl ℝ) (l : List (Atom × ℝ)) (w : ℝ) :
    Spec.sigmaS t l w = wsum (fun a => (pa t w a).2) l / wsum (fun _ => 1) l := by
  simp only [Spec.sigmaS, count_spec, ← pa_eq_spec, spec_sum_wsum fun a => (pa t w a).2]

theorem numberDensity_spec (t : Tbl ℝ) (l : List (Atom × ℝ)) (ρ : ℝ) :
    Spec.numberDensity t l ρ = wsum (fun _ => 1) l / cellVolume (wsum t.atomMass l) ρ := by
  simp only [Spec.numberDensity, Spec.cellVolume, cellVolume, count_spec, molarMass_spec, lit]
  ring

/-- the three outcomes.  When every atom has data and `m·ρ ≠ 0` the result is
    `_calculate_scattering` on the documented number density and mean `b_c`, `σ_s` -/
theorem neutronScattering_ok (t : Tbl ℝ) {atoms : List (Atom × ℝ)} {ρ : ℝ} (w : ℝ)
    (hd : AllData t atoms) (hv : Spec.molarMass t atoms * ρ ≠ 0) :
    neutronScattering t atoms ρ w = .ok (calculateScattering (Spec.numberDensity t atoms ρ) w
      (Spec.reB t atoms w, Spec.imBc t atoms w) (Spec.sigmaS t atoms w)) := by
  rw [molarMass_spec] at hv
  rw [neutronScattering_allData t ρ w hd, finish_ok (a := sums t w atoms) w hv, numberDensity_spec,
    reB_spec, imBc_spec, sigmaS_spec]
  rfl

theorem neutronScattering_vacuum (t : Tbl ℝ) {atoms : List (Atom × ℝ)} {ρ : ℝ} (w : ℝ)
    (hd : AllData t atoms) (hv : Spec.molarMass t atoms * ρ = 0) :
    neutronScattering t atoms ρ w = .vacuum := by
  rw [molarMass_spec] at hv
  rw [neutronScattering_allData t ρ w hd, finish_vacuum (a := sums t w atoms) w hv]

/-- the general form: only the signs that `abs` needs are assumed -/
theorem scattering_eq_spec_of_signs (t : Tbl ℝ) (atoms : List (Atom × ℝ)) (ρ w : ℝ)
    (hd : AllData t atoms) (hv : Spec.molarMass t atoms * ρ ≠ 0)
    (hN : 0 ≤ Spec.numberDensity t atoms ρ) (him : Spec.imBc t atoms w ≤ 0) :
    neutronScattering t atoms ρ w = .ok (Spec.scattering t atoms ρ w) := by
  rw [neutronScattering_ok t w hd hv, calculateScattering_eq_doc hN him]
  rfl

theorem neutronScattering_missing_iff (t : Tbl ℝ) (atoms : List (Atom × ℝ)) (ρ w : ℝ) :
    neutronScattering t atoms ρ w = .missing ↔ ¬ AllData t atoms := by
  refine ⟨fun h hd => ?_, neutronScattering_missing t ρ w⟩
  rw [neutronScattering_allData t ρ w hd] at h
  unfold finish at h; split at h <;> cases h

/-- a physical input: a non-empty compound with positive counts and masses, positive density
    and wavelength -/
structure Physical (t : Tbl ℝ) (atoms : List (Atom × ℝ)) (ρ w : ℝ) : Prop where
  nonempty : atoms ≠ []
  counts : ∀ e ∈ atoms, 0 < e.2
  masses : ∀ e ∈ atoms, 0 < t.atomMass e.1
  density : 0 < ρ
  wavelength : 0 < w

/-- every atom's (interpolated) imaginary scattering length is ≤ 0, i.e. its absorption cross
    section is ≥ 0 -/
def ImNonpos (t : Tbl ℝ) (w : ℝ) (atoms : List (Atom × ℝ)) : Prop :=
  ∀ e ∈ atoms, (Spec.atomOf t w e.1).1.2 ≤ 0

section
variable {t : Tbl ℝ} {atoms : List (Atom × ℝ)} {ρ w : ℝ} (h : Physical t atoms ρ w)
include h

theorem Physical.count_pos : 0 < Spec.count atoms := by
  rw [count_spec]
  exact wsum_pos h.nonempty fun e he => mul_pos one_pos (h.counts e he)

theorem Physical.molarMass_pos : 0 < Spec.molarMass t atoms := by
  rw [molarMass_spec]
  exact wsum_pos h.nonempty fun e he => mul_pos (h.masses e he) (h.counts e he)

theorem Physical.numberDensity_pos : 0 < Spec.numberDensity t atoms ρ := by
  rw [numberDensity_spec, ← count_spec, ← molarMass_spec]
  exact div_pos h.count_pos (cellVolume_pos h.molarMass_pos h.density)

theorem imBc_nonpos (him : ImNonpos t w atoms) : Spec.imBc t atoms w ≤ 0 := by
  rw [imBc_spec]
  refine div_nonpos_of_nonpos_of_nonneg (wsum_nonpos fun e he => ?_) (count_spec atoms ▸ h.count_pos.le)
  exact mul_nonpos_of_nonpos_of_nonneg (pa_eq_spec t w e.1 ▸ him e he) (h.counts e he).le

end

/-- **C03**: for every physical input whose atoms all have neutron data, `neutron_scattering`
    returns the seven quantities of the documented equations -/
theorem scattering_eq_spec (t : Tbl ℝ) (atoms : List (Atom × ℝ)) (ρ w : ℝ)
    (hd : AllData t atoms) (h : Physical t atoms ρ w) (him : ImNonpos t w atoms) :
    neutronScattering t atoms ρ w = .ok (Spec.scattering t atoms ρ w) :=
  scattering_eq_spec_of_signs t atoms ρ w hd
    (mul_ne_zero h.molarMass_pos.ne' h.density.ne') h.numberDensity_pos.le (imBc_nonpos h him)

/-! ## a bare element / isotope is the one-atom compound at that atom's density -/

theorem atomMass_neutral (t : Tbl ℝ) (x : Atom) (hq : x.q = 0) : t.atomMass x = t.mass x.z x.a := by
  simp [Tbl.atomMass, atomMass, hq]

/-- general form: the compound `[(1, x)]` at any density `ρ` with `ρ/m = ρ_el/m_el` -/
theorem bare_eq_one_atom_compound (t : Tbl ℝ) (x : Atom) (r : NRec ℝ) (ρ ρEl mEl w : ℝ)
    (hq : x.q = 0) (hrec : t.recOf x.z x.a = some r)
    (hnd : r.numberDensity = numberDensityOf ρEl mEl)
    (hm : t.mass x.z x.a ≠ 0) (hρ : ρ ≠ 0)
    (hratio : ρ / t.mass x.z x.a = ρEl / mEl) :
    neutronScattering t [(x, 1)] ρ w = .ok (bareScattering r w) := by
  -- the loop runs once; both sides are then `calculateScattering` on the same `b`, `σ_s`, and the
  -- number densities `1/V` and `r.numberDensity/1e24` agree by `hratio` (`hN`)
  have hn : t.neutron x = some r := hrec
  have hv : (t.mass x.z x.a * ρ == 0) = false := by simpa using mul_ne_zero hm hρ
  simp only [neutronScattering, List.foldl, sumStep, hn, Acc.zero, finish, atomMass_neutral t x hq,
    zero_add, mul_one, hv, Bool.false_eq_true, if_false, Outcome.ok.injEq, bareScattering]
  have hN : (1 : ℝ) / cellVolume (t.mass x.z x.a) ρ = r.numberDensity / lit (10 ^ 24) := by
    rw [hnd]; unfold cellVolume numberDensityOf
    rw [← hratio]
    have := avogadro_pos.ne'
    field_simp
  rw [hN]
  congr 1
  · simp [Cx.divS, Cx.add, Cx.smul]
  · simp

/-- an element queried directly = the compound `[(1, element)]` at the element's density -/
theorem element_eq_one_atom_compound (t : Tbl ℝ) (x : Atom) (r : NRec ℝ) (ρEl w : ℝ)
    (hq : x.q = 0) (hrec : t.recOf x.z x.a = some r)
    (hnd : r.numberDensity = numberDensityOf ρEl (t.mass x.z x.a))
    (hm : t.mass x.z x.a ≠ 0) (hρ : ρEl ≠ 0) :
    neutronScattering t [(x, 1)] ρEl w = .ok (bareScattering r w) :=
  bare_eq_one_atom_compound t x r ρEl ρEl _ w hq hrec hnd hm hρ rfl

end PtProofs.Neutron
