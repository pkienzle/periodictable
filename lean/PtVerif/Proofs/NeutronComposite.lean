import PtVerif.Proofs.Neutron
/-!
# C17: the composite calculator equals the direct calculation

The calculator keeps the sums of each material (`mapM_sumPiece`) and combines them by the weights;
every sum of the formula `Σ wᵢ·mᵢ` is that combination (`dotSum_wsum`), and the calculator's copy of
the arithmetic is `finish` (`compositeCompute_eq`).
-/
namespace PtProofs.Neutron
open PtModel hiding hasKey setKey cellVolume naturalMassRatio
open PtModel.Neutron

/-! ### which atoms occur in a structure, and the keys of its atom dict -/

mutual
def fragOccurs (a : Atom) : Frag ℝ → Prop
  | .atom b => b = a
  | .group is => itemsOccurs a is
def itemsOccurs (a : Atom) : Items ℝ → Prop
  | .nil => False
  | .cons _ f r => fragOccurs a f ∨ itemsOccurs a r
end

theorem mem_keys_mergeScaled (t p : List (Atom × ℝ)) (c : ℝ) (a : Atom) :
    a ∈ (mergeScaled t p c).map Prod.fst ↔ a ∈ t.map Prod.fst ∨ a ∈ p.map Prod.fst := by
  unfold mergeScaled
  induction p generalizing t with
  | nil => simp
  | cons e r ih => rw [List.foldl_cons, ih, mem_keys_bump, List.map_cons, List.mem_cons, or_assoc]

mutual
theorem mem_keys_fragCount (f : Frag ℝ) (a : Atom) :
    a ∈ f.count.map Prod.fst ↔ fragOccurs a f := by
  cases f with
  | atom b => simp [Frag.count, fragOccurs, eq_comm]
  | group is =>
    rw [Frag.count, fragOccurs, mem_keys_countAcc]
    simp
theorem mem_keys_countAcc (s : Items ℝ) (t : List (Atom × ℝ)) (a : Atom) :
    a ∈ (s.countAcc t).map Prod.fst ↔ a ∈ t.map Prod.fst ∨ itemsOccurs a s := by
  cases s with
  | nil => simp [Items.countAcc, itemsOccurs]
  | cons c f r =>
    rw [Items.countAcc, itemsOccurs, mem_keys_countAcc, mem_keys_mergeScaled, mem_keys_fragCount,
      or_assoc]
end

theorem mem_keys_atoms (s : Items ℝ) (a : Atom) :
    a ∈ s.atoms.map Prod.fst ↔ itemsOccurs a s := by
  unfold Items.atoms
  rw [mem_keys_countAcc]
  simp

theorem allData_atoms_iff (t : Tbl ℝ) (s : Items ℝ) :
    AllData t s.atoms ↔ ∀ a, itemsOccurs a s → (t.neutron a).isSome = true := by
  simp only [allData_iff_keys, mem_keys_atoms]

theorem itemsOccurs_append (s u : Items ℝ) (a : Atom) :
    itemsOccurs a (s.append u) ↔ itemsOccurs a s ∨ itemsOccurs a u := by
  match s with
  | .nil => simp [Items.append, itemsOccurs]
  | .cons c f r => rw [Items.append, itemsOccurs, itemsOccurs, itemsOccurs_append r u a, or_assoc]

theorem itemsOccurs_rmulS (n : ℝ) (s : Items ℝ) (a : Atom) :
    itemsOccurs a (rmulS n s) ↔ itemsOccurs a s := by
  unfold rmulS
  by_cases h : (n == 1) = true
  · simp [h]
  · simp only [h, Bool.false_eq_true, if_false]
    match s with
    | .nil => simp
    | .cons q f .nil => simp [itemsOccurs]
    | .cons q f (.cons q' f' r) => simp [itemsOccurs, fragOccurs]

/-- the formula `Σ wᵢ·mᵢ` as Python builds it: `__rmul__` for each product, `__add__` to join -/
noncomputable def weighted : List ℝ → List (Items ℝ) → Items ℝ
  | w :: ws, m :: ms => addS (rmulS w m) (weighted ws ms)
  | _, _ => .nil

theorem itemsOccurs_weighted (ws : List ℝ) (ms : List (Items ℝ)) (h : ws.length = ms.length)
    (a : Atom) : itemsOccurs a (weighted ws ms) ↔ ∃ m ∈ ms, itemsOccurs a m := by
  induction ws generalizing ms with
  | nil =>
    cases ms with
    | nil => simp [weighted, itemsOccurs]
    | cons m r => simp at h
  | cons w r ih =>
    cases ms with
    | nil => simp at h
    | cons m r' =>
      simp only [weighted, addS, itemsOccurs_append, itemsOccurs_rmulS, List.mem_cons,
        exists_eq_or_imp]
      rw [ih r' (by simpa using h)]

/-- `[_sum_piece(m) for m in materials]` is the list of plain sums behind one `has_sld` test over
    all materials – the shape `compositeSldV` has by definition -/
theorem mapM_sumPiece (t : Tbl ℝ) (w : ℝ) (mats : List (List (Atom × ℝ))) :
    mats.mapM (sumPiece t w) =
      if mats.any (fun m => m.any fun e => (t.neutron e.1).isNone) then none
      else some (mats.map (sumsAt t w)) := by
  induction mats with
  | nil => rfl
  | cons m r ih =>
    rw [List.mapM_cons, sumPiece_eq, ih, List.any_cons]
    cases (m.any fun e => (t.neutron e.1).isNone) <;>
      cases (r.any fun m => m.any fun e => (t.neutron e.1).isNone) <;> rfl

theorem any_any_missing_iff (t : Tbl ℝ) (mats : List (List (Atom × ℝ))) :
    mats.any (fun m => m.any fun e => (t.neutron e.1).isNone) = true
      ↔ ¬ ∀ l ∈ mats, AllData t l := by
  rw [List.any_eq_true (l := mats)]
  simp only [any_missing_iff, not_forall, exists_prop]

theorem map_sumsAt_allData (t : Tbl ℝ) (w : ℝ) {mats : List (List (Atom × ℝ))}
    (h : ∀ l ∈ mats, AllData t l) : mats.map (sumsAt t w) = mats.map (sums t w) :=
  List.map_congr_left fun l hl => sumsAt_allData t w (h l hl)

/-- what the calculator reports for a direct result: the three SLDs, zeros for the vacuum,
    `(None, None, None)` for missing data -/
noncomputable def compOf : Outcome ℝ → CompOut ℝ
  | .ok s => .ok s.sldRe s.sldIm s.sldInc
  | .vacuum => .zeros
  | .missing => .missing

theorem dotSum_cons (x : ℝ) (ws : List ℝ) (y : ℝ) (ps : List ℝ) :
    dotSum (x :: ws) (y :: ps) = x * y + dotSum ws ps := by
  simp only [dotSum, ← List.sum_eq_foldl, List.zipWith_cons_cons, List.sum_cons]

theorem dotSumC_eq (ws : List ℝ) (ps : List (Cx ℝ)) :
    dotSumC ws ps = (dotSum ws (ps.map Prod.fst), dotSum ws (ps.map Prod.snd)) := by
  suffices ∀ z : Cx ℝ, (List.zipWith Cx.smul ws ps).foldl Cx.add z
      = (z.1 + dotSum ws (ps.map Prod.fst), z.2 + dotSum ws (ps.map Prod.snd)) by
    rw [dotSumC, this, zero_add, zero_add]
  induction ws generalizing ps with
  | nil => intro z; simp [dotSum]
  | cons x r ih =>
    intro z
    cases ps with
    | nil => simp [dotSum]
    | cons y r' =>
      simp only [List.zipWith_cons_cons, List.foldl_cons, List.map_cons, dotSum_cons, ih, Cx.add,
        Cx.smul, add_assoc]

/-- `Σᵢ wᵢ · (Σ over mᵢ of n·f)` is the sum over the combined formula -/
theorem dotSum_wsum (f : Atom → ℝ) (ws : List ℝ) (ms : List (Items ℝ)) :
    dotSum ws (ms.map fun m => wsum f m.atoms) = wsum f (weighted ws ms).atoms := by
  rw [Items.wsum_atoms]
  induction ws generalizing ms with
  | nil => cases ms <;> rfl
  | cons x r ih =>
    cases ms with
    | nil => rfl
    | cons m r' =>
      rw [List.map_cons, dotSum_cons, ih, weighted, addS, Items.flatMass_append, flatMass_rmulS,
        Items.wsum_atoms, mul_comm]

theorem compositeCompute_eq (parts : List (Acc ℝ)) (ws : List ℝ) (ρ w : ℝ) (A : Acc ℝ)
    (h1 : dotSum ws (parts.map (·.molarMass)) = A.molarMass)
    (h2 : dotSum ws (parts.map (·.numAtoms)) = A.numAtoms)
    (h3 : dotSumC ws (parts.map (·.bc)) = A.bc)
    (h4 : dotSum ws (parts.map (·.sigS)) = A.sigS) :
    compositeCompute parts ws ρ = compOf (finish A ρ w) := by
  unfold compositeCompute finish
  simp only [h1, h2, h3, h4]
  by_cases hz : A.molarMass * ρ = 0
  · simp [hz, compOf]
  · simp only [beq_iff_eq, hz, if_false, compOf, calculateScattering, cellVolume]

/-- the calculator on the sums of the materials is the tail on the sums of `Σ wᵢ·mᵢ` -/
theorem compositeCompute_sums (t : Tbl ℝ) (ms : List (Items ℝ)) (ws : List ℝ) (ρ w : ℝ) :
    compositeCompute ((ms.map Items.atoms).map (sums t w)) ws ρ
      = compOf (finish (sums t w (weighted ws ms).atoms) ρ w) := by
  apply compositeCompute_eq <;>
    simp only [dotSumC_eq, List.map_map, Function.comp_def, sums, dotSum_wsum]

theorem allData_weighted (t : Tbl ℝ) (ms : List (Items ℝ)) (ws : List ℝ)
    (hlen : ws.length = ms.length) :
    AllData t (weighted ws ms).atoms ↔ ∀ m ∈ ms, AllData t m.atoms := by
  simp only [allData_atoms_iff, itemsOccurs_weighted ws ms hlen]
  exact ⟨fun h m hm a ha => h a ⟨m, hm, ha⟩, fun h a ⟨m, hm, ha⟩ => h m hm a ha⟩

/-- **C17**: the calculator built from the materials and applied to weights `ws` and density `ρ`
    returns the real, imaginary and incoherent SLD of the direct calculation on the formula
    `Σ wᵢ·mᵢ`: `0, 0, 0` where the direct calculation returns the vacuum tuple and
    `(None, None, None)` where it does (some material contains an atom without SLD) -/
theorem composite_eq_direct (t : Tbl ℝ) (ms : List (Items ℝ)) (ws : List ℝ) (ρ w : ℝ)
    (hlen : ws.length = ms.length) :
    compositeSld t (ms.map Items.atoms) w ws ρ
      = compOf (neutronScattering t (weighted ws ms).atoms ρ w) := by
  have hW := allData_weighted t ms ws hlen
  rw [← List.forall_mem_map (f := Items.atoms) (P := AllData t)] at hW
  unfold compositeSld
  rw [mapM_sumPiece]
  cases h : (ms.map Items.atoms).any fun m => m.any fun e => (t.neutron e.1).isNone
  · have hd := not_not.mp (mt (any_any_missing_iff t _).mpr (ne_true_of_eq_false h))
    rw [neutronScattering_allData t ρ w (hW.mpr hd), ← compositeCompute_sums,
      ← map_sumsAt_allData t w hd]
    rfl
  · rw [neutronScattering_missing t ρ w (mt hW.mp ((any_any_missing_iff t _).mp h))]
    rfl

theorem dotSum_eq_zero {ws : List ℝ} (hz : ∀ x ∈ ws, x = 0) (ps : List ℝ) : dotSum ws ps = 0 := by
  induction ws generalizing ps with
  | nil => rfl
  | cons x r ih =>
    cases ps with
    | nil => rfl
    | cons y r' =>
      rw [dotSum_cons, hz x (by simp), zero_mul, zero_add, ih fun y hy => hz y (by simp [hy])]

/-- **zeros**: zero total weight (all weights 0) or zero density gives `0, 0, 0`, like the
    direct calculation's vacuum tuple -/
theorem zero_gives_zeros (t : Tbl ℝ) (ms : List (Items ℝ)) (ws : List ℝ) (ρ w : ℝ)
    (hlen : ws.length = ms.length) (hd : ∀ m ∈ ms, AllData t m.atoms)
    (hz : ρ = 0 ∨ ∀ x ∈ ws, x = 0) :
    compositeSld t (ms.map Items.atoms) w ws ρ = .zeros ∧
      neutronSld t (weighted ws ms).atoms ρ w = some (0, 0, 0) := by
  have hvac : neutronScattering t (weighted ws ms).atoms ρ w = .vacuum := by
    refine neutronScattering_vacuum t w ((allData_weighted t ms ws hlen).mpr hd) ?_
    rcases hz with hz | hz
    · rw [hz, mul_zero]
    · rw [molarMass_spec, ← dotSum_wsum, dotSum_eq_zero hz, zero_mul]
  rw [composite_eq_direct t ms ws ρ w hlen, neutronSld, hvac]
  exact ⟨rfl, rfl⟩

theorem compositeCompute_ok_of_nonzero (parts : List (Acc ℝ)) (ws : List ℝ) (ρ : ℝ)
    (h : dotSum ws (parts.map (·.molarMass)) * ρ ≠ 0) :
    ∃ a b c, compositeCompute parts ws ρ = .ok a b c := by
  unfold compositeCompute
  simp only [beq_iff_eq, h, if_false]
  exact ⟨_, _, _, rfl⟩

theorem compositeCompute_zero (parts : List (Acc ℝ)) (ws : List ℝ) (ρ : ℝ)
    (h : dotSum ws (parts.map (·.molarMass)) * ρ = 0) :
    compositeCompute parts ws ρ = .zeros := by
  unfold compositeCompute
  simp [h]

end PtProofs.Neutron
