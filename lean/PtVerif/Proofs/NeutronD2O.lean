import PtVerif.Proofs.Neutron
import PtVerif.Model.NeutronD2O
/-!
# C16: the solute SLD is that of the compound with substituted labile hydrogen

The mixing statements (volume fraction, match point, `fasta.Molecule`) are arithmetic on the four SLD
triples of `_D2O_slds`; the match point solves a linear equation (`match_iff`).

`Formula.replace` on the atom dict (`setKey`, `delKey`) shifts every count-weighted sum by
`n_source · portion · (f target − f source)` (`wsum_replace`) and rescales the density so that the
cell volume is kept.  A compound with data for every atom, non-negative counts and positive density
(`Sound`) stays one under `replace` with a portion in `[0, 1]`, and its real and imaginary SLD are
linear in the sums at fixed cell volume (`Sound.sld_reIm`); the sums of the substituted compound are
the `d : 1 − d` mixture of those of the D- and H-forms (`wsum_substituted`).
-/
namespace PtProofs.Neutron
open PtModel hiding hasKey setKey cellVolume naturalMassRatio
open PtModel.Neutron

theorem mixValues_zero (a b : Sld3 ℝ) : mixValues a b 0 = b := by
  unfold mixValues; ext <;> simp

theorem mixValues_one (a b : Sld3 ℝ) : mixValues a b 1 = a := by
  unfold mixValues; ext <;> simp

/-- at volume fraction 0 the solution is the H2O/D2O solvent mixture -/
theorem vf0_is_solvent (t : Tbl ℝ) (c : Compound ℝ) (w d : ℝ) :
    d2oSld t c w 0 d = (d2oSlds t c w).map fun s => mixValues s.2.1 s.1 d := by
  unfold d2oSld
  cases d2oSlds t c w with
  | none => rfl
  | some s => obtain ⟨h2o, d2o, hs, ds⟩ := s; simp [mixValues_zero]

/-- at volume fraction 1 the solution is the solute: the D- and H-substituted compounds mixed
    by the D2O fraction -/
theorem vf1_is_solute (t : Tbl ℝ) (c : Compound ℝ) (w d : ℝ) :
    d2oSld t c w 1 d = (d2oSlds t c w).map fun s => mixValues s.2.2.2 s.2.2.1 d := by
  unfold d2oSld
  cases d2oSlds t c w with
  | none => rfl
  | some s => obtain ⟨h2o, d2o, hs, ds⟩ := s; simp [mixValues_one]

/-- in between the three SLDs mix linearly in the volume fraction -/
theorem linear_in_volume_fraction (t : Tbl ℝ) (c : Compound ℝ) (w vf d : ℝ) (s1 s0 : Sld3 ℝ)
    (h1 : d2oSld t c w 1 d = some s1) (h0 : d2oSld t c w 0 d = some s0) :
    d2oSld t c w vf d = some (mixValues s1 s0 vf) := by
  rw [vf1_is_solute] at h1
  rw [vf0_is_solvent] at h0
  unfold d2oSld
  cases hs : d2oSlds t c w with
  | none => rw [hs] at h1; cases h1
  | some s =>
    rw [hs] at h1 h0
    simp only [Option.map_some, Option.some.injEq] at h1 h0 ⊢
    rw [← h1, ← h0]

/-- the denominator of the match point: `SLD(D) − SLD(H) + SLD(H2O) − SLD(D2O)` (real parts) -/
noncomputable def matchDenominator (s : Sld3 ℝ × Sld3 ℝ × Sld3 ℝ × Sld3 ℝ) : ℝ :=
  s.2.2.2.1 - s.2.2.1.1 + s.1.1 - s.2.1.1

/-- solute and solvent have the same SLD at D2O fraction `d` exactly when `d` is the reported
    match fraction: a linear equation in `d` -/
theorem match_iff (h2o d2o hs ds d : ℝ) (hden : ds - hs + h2o - d2o ≠ 0) :
    d2o * d + h2o * (1 - d) = ds * d + hs * (1 - d) ↔ d = (h2o - hs) / (ds - hs + h2o - d2o) := by
  rw [eq_div_iff hden]; constructor <;> intro h <;> linear_combination -h

/-- **match point**: at the reported D2O fraction the real SLD of the solution is the same for
    every volume fraction, namely the reported SLD -/
theorem match_point_independent_of_vf (t : Tbl ℝ) (c : Compound ℝ) (w : ℝ)
    (s : Sld3 ℝ × Sld3 ℝ × Sld3 ℝ × Sld3 ℝ) (hs : d2oSlds t c w = some s)
    (hden : matchDenominator s ≠ 0) (f sld : ℝ) (hm : d2oMatch t c w = some (f, sld)) (vf : ℝ) :
    (d2oSld t c w vf f).map (·.1) = some sld := by
  obtain ⟨h2o, d2o, hsld, dsld⟩ := s
  simp only [d2oMatch, d2oSld, hs, Option.map_some, Option.some.injEq, Prod.mk.injEq,
    mixValues] at hm ⊢
  obtain ⟨rfl, rfl⟩ := hm
  rw [(match_iff _ d2o.1 _ _ _ hden).mpr rfl]
  ring

/-- … and it is the only such fraction: if the real SLD at D2O fraction `d` is the same at volume
    fractions 0 and 1, then `d` is the reported match point -/
theorem match_point_unique (t : Tbl ℝ) (c : Compound ℝ) (w : ℝ)
    (s : Sld3 ℝ × Sld3 ℝ × Sld3 ℝ × Sld3 ℝ) (hs : d2oSlds t c w = some s)
    (hden : matchDenominator s ≠ 0) (f sld : ℝ) (hm : d2oMatch t c w = some (f, sld)) (d : ℝ)
    (heq : (d2oSld t c w 0 d).map (·.1) = (d2oSld t c w 1 d).map (·.1)) : d = f := by
  simp only [d2oMatch, d2oSld, hs, Option.map_some, Option.some.injEq, Prod.mk.injEq,
    mixValues] at hm heq
  rw [← hm.1]
  exact (match_iff _ _ _ _ d hden).mp (by linear_combination heq)

/-! ### fasta.Molecule reports the same numbers -/

/-- the two modules use the same solvent literals -/
theorem fasta_water_eq_nsf_water :
    (PtGen.fasta_H2O_natural_density : ℝ) = PtGen.nsf_H2O_natural_density ∧
    (PtGen.fasta_D2O_natural_density : ℝ) = PtGen.nsf_D2O_natural_density := by
  unfold PtGen.fasta_H2O_natural_density PtGen.nsf_H2O_natural_density
    PtGen.fasta_D2O_natural_density PtGen.nsf_D2O_natural_density
  constructor <;> norm_num

theorem fastaWaterSld_eq (t : Tbl ℝ) (h : Atom) (nd : ℝ) :
    fastaWaterSld t h nd = (compoundSld t (water t h nd) PtGen.ABSORPTION_WAVELENGTH).map (·.1) := rfl

/-- `Molecule.sld`, `.Dsld` are the real SLDs of the H- and D-substituted forms and
    `.D2Omatch` is `100 ×` the match fraction of `D2O_match` (default wavelength) -/
theorem fasta_match_is_percentage (t : Tbl ℝ) (m : Compound ℝ) (mol : Molecule ℝ)
    (hmol : molecule t m = some mol) :
    ∃ s f sld, d2oSlds t m PtGen.ABSORPTION_WAVELENGTH = some s ∧
      d2oMatch t m PtGen.ABSORPTION_WAVELENGTH = some (f, sld) ∧
      mol.sld = s.2.2.1.1 ∧ mol.dsld = s.2.2.2.1 ∧ mol.d2oMatch = 100 * f := by
  obtain ⟨e1, e2⟩ := fasta_water_eq_nsf_water
  unfold molecule fastaWaterSld at hmol
  unfold d2oMatch d2oSlds
  rw [e1, e2] at hmol
  -- both sides read the same four SLDs; each is there or not
  generalize compoundSld t (water t atomH _) _ = A at hmol ⊢
  generalize compoundSld t (water t atomD _) _ = B at hmol ⊢
  generalize compoundSld t (replace _ m atomH1 atomH 1) _ = H at hmol ⊢
  generalize compoundSld t (replace _ m atomH1 atomD 1) _ = D at hmol ⊢
  rcases A with _ | a
  · cases hmol
  rcases B with _ | b
  · cases hmol
  rcases H with _ | h
  · cases hmol
  rcases D with _ | d
  · cases hmol
  cases hmol
  refine ⟨(a, b, h, d), _, _, rfl, rfl, rfl, rfl, ?_⟩
  ring

/-- `Molecule.D2Osld(vf, d)` is the real part of `D2O_sld(labile formula, vf, d)` -/
theorem fasta_D2Osld_eq (t : Tbl ℝ) (m : Compound ℝ) (vf d : ℝ) :
    moleculeD2Osld t m vf d = (d2oSld t m PtGen.ABSORPTION_WAVELENGTH vf d).map (·.1) := by
  obtain ⟨e1, e2⟩ := fasta_water_eq_nsf_water
  unfold moleculeD2Osld molecule d2oSld d2oSlds fastaWaterSld
  rw [e1, e2]
  generalize compoundSld t (water t atomH _) _ = A
  generalize compoundSld t (water t atomD _) _ = B
  generalize compoundSld t (replace _ m atomH1 atomH 1) _ = H
  generalize compoundSld t (replace _ m atomH1 atomD 1) _ = D
  rcases A with _ | a
  · rfl
  rcases B with _ | b
  · rfl
  rcases H with _ | h
  · rfl
  rcases D with _ | ds
  · rfl
  simp only [Option.map_some, Option.some.injEq, mixValues]
  ring

/-! ## dict operations

`replace` updates the dict by `setKey` (the first entry with the key) and `delKey`: the first is a
`bump` of C02 by the difference, the second is C12's `eraseKey`, and their facts are inherited.
`hasKey_iff`, `lookupD_setKey`, `wsum_setKey` here are about this model's `hasKey` / `setKey` and
shadow the lemmas of `Proofs/Dict.lean` with these names, which are about C12's; `wsum_setKey` in
this form (a `bump`, over ℝ) needs no distinct keys. -/

theorem hasKey_iff (l : List (Atom × ℝ)) (a : Atom) :
    hasKey l a = true ↔ a ∈ l.map Prod.fst := by
  unfold hasKey
  simp only [List.any_eq_true, beq_iff_eq, List.mem_map]

theorem lookupD_of_not_hasKey {l : List (Atom × ℝ)} {a : Atom} (h : ¬ hasKey l a = true) :
    lookupD l a = 0 := lookupD_of_not_mem (mt (hasKey_iff l a).mpr h)

/-- `d[a] = x` is `d[a] += x − d.get(a, 0)` -/
theorem setKey_eq_bump (l : List (Atom × ℝ)) (a : Atom) (x : ℝ) :
    setKey l a x = bump l a (x - lookupD l a) := by
  induction l with
  | nil => simp [setKey, bump, lookupD]
  | cons e r ih =>
    obtain ⟨k, y⟩ := e
    by_cases h : k = a <;> simp [setKey, bump, lookupD, h, ih]

theorem mem_keys_setKey {l : List (Atom × ℝ)} {a : Atom} {x : ℝ} {b : Atom} :
    b ∈ (setKey l a x).map Prod.fst ↔ b ∈ l.map Prod.fst ∨ b = a := by
  rw [setKey_eq_bump, mem_keys_bump]

theorem keysNodup_setKey {l : List (Atom × ℝ)} (h : KeysNodup l) (a : Atom) (x : ℝ) :
    KeysNodup (setKey l a x) := setKey_eq_bump l a x ▸ h.bump a _

theorem wsum_setKey (f : Atom → ℝ) (l : List (Atom × ℝ)) (a : Atom) (x : ℝ) :
    wsum f (setKey l a x) = wsum f l + f a * (x - lookupD l a) := by
  rw [setKey_eq_bump, wsum_bump]

theorem lookupD_setKey (l : List (Atom × ℝ)) (a : Atom) (x : ℝ) (b : Atom) :
    lookupD (setKey l a x) b = if a = b then x else lookupD l b := by
  rw [setKey_eq_bump, lookupD_bump, add_sub_cancel]

theorem delKey_eq_eraseKey (l : List (Atom × ℝ)) (a : Atom) : delKey l a = eraseKey l a :=
  List.filter_congr fun e _ => by simp [beq_eq_decide]

theorem keysNodup_delKey {l : List (Atom × ℝ)} (h : KeysNodup l) (a : Atom) :
    KeysNodup (delKey l a) := delKey_eq_eraseKey l a ▸ h.eraseKey a

theorem mem_keys_of_mem_keys_delKey {l : List (Atom × ℝ)} {a b : Atom}
    (h : b ∈ (delKey l a).map Prod.fst) : b ∈ l.map Prod.fst :=
  (List.filter_sublist.map _).subset h

theorem wsum_delKey (f : Atom → ℝ) {l : List (Atom × ℝ)} (h : KeysNodup l) (a : Atom) :
    wsum f (delKey l a) = wsum f l - f a * lookupD l a := by
  rw [delKey_eq_eraseKey]
  exact eq_sub_of_add_eq (wsum_eraseKey f h a)

theorem lookupD_delKey (l : List (Atom × ℝ)) (a b : Atom) :
    lookupD (delKey l a) b = if a = b then 0 else lookupD l b := by
  rw [delKey_eq_eraseKey, lookupD_eraseKey]

section Replace
variable {am : Atom → ℝ} {c : Compound ℝ} {s tg : Atom} {p : ℝ}

/-- every count-weighted sum changes by `n_source · portion · (f target − f source)` -/
theorem wsum_replace (f : Atom → ℝ) (hk : KeysNodup c.atoms) (hne : s ≠ tg) :
    wsum f (replace am c s tg p).atoms
      = wsum f c.atoms + lookupD c.atoms s * p * (f tg - f s) := by
  unfold replace
  split
  · split
    · next hp =>
      rw [wsum_delKey f (keysNodup_setKey hk _ _), wsum_setKey, lookupD_setKey, if_neg hne.symm,
        eq_of_beq hp]
      ring
    · rw [wsum_setKey, wsum_setKey, lookupD_setKey, if_neg hne.symm]
      ring
  · next hs =>
    rw [lookupD_of_not_hasKey hs]
    ring

theorem keysNodup_replace (hk : KeysNodup c.atoms) : KeysNodup (replace am c s tg p).atoms := by
  unfold replace
  split
  · split
    · exact keysNodup_delKey (keysNodup_setKey hk _ _) _
    · exact keysNodup_setKey (keysNodup_setKey hk _ _) _ _
  · exact hk

/-- the counts after the replacement: the source keeps `1 − portion` of its atoms, the target
    gains the rest, every other atom is unchanged -/
theorem lookupD_replace (hne : s ≠ tg) (b : Atom) :
    lookupD (replace am c s tg p).atoms b =
      if s = b then lookupD c.atoms s * (1 - p)
      else if tg = b then lookupD c.atoms tg + lookupD c.atoms s * p
      else lookupD c.atoms b := by
  unfold replace
  split
  · split
    · next hp =>
      rw [eq_of_beq hp, lookupD_delKey, lookupD_setKey, sub_self, mul_zero, mul_one]
    · rw [lookupD_setKey, lookupD_setKey, lookupD_setKey, if_neg hne.symm]
  · next hs =>
    rw [lookupD_of_not_hasKey hs, zero_mul, zero_mul, add_zero]
    split_ifs with h1 h2
    · rw [← h1, lookupD_of_not_hasKey hs]
    · rw [h2]
    · rfl

/-- density bookkeeping: `ρ' = ρ · M'/M` (so the cell volume `M/ρ` is kept) -/
theorem replace_density (hk : KeysNodup c.atoms) (hne : s ≠ tg) (hM : wsum am c.atoms ≠ 0) :
    (replace am c s tg p).density
      = c.density * wsum am (replace am c s tg p).atoms / wsum am c.atoms := by
  rw [wsum_replace am hk hne]
  unfold replace
  split
  · simp only [massOf_eq_wsum]
    congr 1
    ring
  · next hs =>
    rw [lookupD_of_not_hasKey hs]
    field_simp
    ring

theorem cellVolume_rescale {M M' : ℝ} (ρ : ℝ) (hM : M ≠ 0) (hM' : M' ≠ 0) :
    cellVolume M' (ρ * M' / M) = cellVolume M ρ := by
  unfold cellVolume
  by_cases hρ : ρ = 0
  · subst hρ
    simp
  · field_simp

theorem replace_cellVolume (hk : KeysNodup c.atoms) (hne : s ≠ tg) (hM : wsum am c.atoms ≠ 0)
    (hM' : wsum am (replace am c s tg p).atoms ≠ 0) :
    cellVolume (wsum am (replace am c s tg p).atoms) (replace am c s tg p).density
      = cellVolume (wsum am c.atoms) c.density := by
  rw [replace_density hk hne hM]
  exact cellVolume_rescale _ hM hM'

theorem mem_keys_replace {b : Atom} (h : b ∈ (replace am c s tg p).atoms.map Prod.fst) :
    b ∈ c.atoms.map Prod.fst ∨ b = tg := by
  unfold replace at h
  split at h
  · next hs =>
    split at h
    · exact mem_keys_setKey.mp (mem_keys_of_mem_keys_delKey h)
    · rcases mem_keys_setKey.mp h with h' | rfl
      · exact mem_keys_setKey.mp h'
      · exact Or.inl ((hasKey_iff _ _).mp hs)
  · exact Or.inl h

theorem allData_replace {t : Tbl ℝ} (hd : AllData t c.atoms) (htg : (t.neutron tg).isSome = true) :
    AllData t (replace am c s tg p).atoms := by
  rw [allData_iff_keys] at hd ⊢
  intro b hb
  rcases mem_keys_replace hb with h | rfl
  · exact hd b h
  · exact htg

end Replace

/-! ## SLD of a compound in terms of its weighted sums -/

/-- real and imaginary part of an SLD triple -/
def reIm (s : Sld3 ℝ) : ℝ × ℝ := (s.1, s.2.1)

/-- real and imaginary SLD from the sums: `10·N·b = 10·Σ n b / V` -/
theorem finish_reIm (a : Acc ℝ) (ρ w : ℝ) (hv : a.molarMass * ρ ≠ 0) (hn : a.numAtoms ≠ 0) :
    (finish a ρ w).sld.map reIm = some
      (10 * a.bc.1 / cellVolume a.molarMass ρ, |10 * a.bc.2 / cellVolume a.molarMass ρ|) := by
  have key (B : ℝ) : (10 : ℝ) * (a.numAtoms / cellVolume a.molarMass ρ) * (B / a.numAtoms)
      = 10 * B / cellVolume a.molarMass ρ := by field_simp
  rw [finish_ok w hv]
  simp only [Outcome.sld, Option.map_some, reIm, calculateScattering, lit, abs_def, Nat.cast_ofNat,
    key]

/-- what `replace` keeps and the SLD formula needs: a dict with data for every atom,
    non-negative counts that are not all zero, positive density -/
structure Sound (t : Tbl ℝ) (c : Compound ℝ) : Prop where
  keys : KeysNodup c.atoms
  data : AllData t c.atoms
  counts : ∀ a, 0 ≤ lookupD c.atoms a
  total : 0 < wsum (fun _ => 1) c.atoms
  density : 0 < c.density

section Sound
variable {t : Tbl ℝ} {c : Compound ℝ} (h : Sound t c)
include h

theorem Sound.nonneg_of_mem {e : Atom × ℝ} (he : e ∈ c.atoms) : 0 ≤ e.2 :=
  lookupD_of_mem h.keys he ▸ h.counts e.1

theorem Sound.mass_pos (hm : ∀ a, 0 < t.atomMass a) : 0 < wsum t.atomMass c.atoms :=
  wsum_pos_of_total hm (fun _ => h.nonneg_of_mem) h.total

/-- `replace` of a portion `0 ≤ p ≤ 1` by an atom with data keeps a sound compound sound, at
    the same cell volume -/
theorem Sound.of_replace (hm : ∀ a, 0 < t.atomMass a) {s tg : Atom} (hne : s ≠ tg)
    (htg : (t.neutron tg).isSome = true) {p : ℝ} (hp0 : 0 ≤ p) (hp1 : p ≤ 1) :
    Sound t (replace t.atomMass c s tg p) ∧
      cellVolume (wsum t.atomMass (replace t.atomMass c s tg p).atoms)
          (replace t.atomMass c s tg p).density
        = cellVolume (wsum t.atomMass c.atoms) c.density := by
  have hM := h.mass_pos hm
  -- the new dict at a dummy density: its mass is positive, which the new density rests on
  have hs : Sound t ⟨(replace t.atomMass c s tg p).atoms, 1⟩ :=
    { keys := keysNodup_replace h.keys
      data := allData_replace h.data htg
      counts := fun a => by
        rw [lookupD_replace hne]
        split_ifs
        exacts [mul_nonneg (h.counts s) (sub_nonneg.mpr hp1),
          add_nonneg (h.counts tg) (mul_nonneg (h.counts s) hp0), h.counts a]
      total := by
        rw [wsum_replace _ h.keys hne, sub_self, mul_zero, add_zero]
        exact h.total
      density := one_pos }
  have hM' := hs.mass_pos hm
  refine ⟨{ hs with density := ?_ }, replace_cellVolume h.keys hne hM.ne' hM'.ne'⟩
  rw [replace_density h.keys hne hM.ne']
  exact div_pos (mul_pos h.density hM') hM

/-- real and imaginary SLD of a sound compound, over a table with positive masses and
    `Im b ≤ 0`: linear in the sums `Σ n·Re b`, `Σ n·Im b` at fixed cell volume -/
theorem Sound.sld_reIm (w : ℝ) (hm : ∀ a, 0 < t.atomMass a) (him : ∀ a, (pa t w a).1.2 ≤ 0) :
    (compoundSld t c w).map reIm = some
      (10 * wsum (fun a => (pa t w a).1.1) c.atoms / cellVolume (wsum t.atomMass c.atoms) c.density,
       -(10 * wsum (fun a => (pa t w a).1.2) c.atoms)
          / cellVolume (wsum t.atomMass c.atoms) c.density) := by
  have hB : wsum (fun a => (pa t w a).1.2) c.atoms ≤ 0 :=
    wsum_nonpos fun e he => mul_nonpos_of_nonpos_of_nonneg (him e.1) (h.nonneg_of_mem he)
  unfold compoundSld neutronSld
  rw [neutronScattering_allData t _ w h.data,
    finish_reIm _ _ w (mul_pos (h.mass_pos hm) h.density).ne' h.total.ne', neg_div]
  dsimp only [sums]
  rw [abs_of_nonpos (div_nonpos_of_nonpos_of_nonneg
    (mul_nonpos_of_nonneg_of_nonpos (by norm_num) hB)
    (cellVolume_pos (h.mass_pos hm) h.density).le)]

end Sound

theorem compoundSld_isSome (t : Tbl ℝ) (c : Compound ℝ) (w : ℝ) (hd : AllData t c.atoms) :
    ∃ s, compoundSld t c w = some s := by
  unfold compoundSld neutronSld
  rw [neutronScattering_allData t _ w hd]
  unfold finish
  split <;> exact ⟨_, rfl⟩

/-- the inputs the property quantifies over: a compound given as an atom dict with positive
    counts and known positive density, over a table in which every atom has positive mass and
    non-negative absorption, and H, D, O have neutron data -/
structure SolutePhysical (t : Tbl ℝ) (c : Compound ℝ) (w : ℝ) : Prop where
  keys : KeysNodup c.atoms
  data : AllData t c.atoms
  dataH : (t.neutron atomH).isSome = true
  dataD : (t.neutron atomD).isSome = true
  dataO : (t.neutron atomO).isSome = true
  nonempty : c.atoms ≠ []
  counts : ∀ e ∈ c.atoms, 0 < e.2
  masses : ∀ a, 0 < t.atomMass a
  density : 0 < c.density
  im : ∀ a, (pa t w a).1.2 ≤ 0

theorem SolutePhysical.sound {t : Tbl ℝ} {c : Compound ℝ} {w : ℝ} (h : SolutePhysical t c w) :
    Sound t c :=
  ⟨h.keys, h.data, lookupD_nonneg fun e he => (h.counts e he).le,
    wsum_pos h.nonempty fun e he => mul_pos one_pos (h.counts e he), h.density⟩

theorem atomH1_ne_H : atomH1 ≠ atomH := by decide
theorem atomH1_ne_D : atomH1 ≠ atomD := by decide

/-- every count-weighted sum of the substituted compound is the `d : (1−d)` mixture of the sums of
    the fully D- and fully H-substituted compounds -/
theorem wsum_substituted (am f : Atom → ℝ) (c : Compound ℝ) (d : ℝ) (hk : KeysNodup c.atoms) :
    wsum f (substituted am c d).atoms
      = d * wsum f (replace am c atomH1 atomD 1).atoms
        + (1 - d) * wsum f (replace am c atomH1 atomH 1).atoms := by
  unfold substituted
  rw [wsum_replace f (keysNodup_replace hk) atomH1_ne_H, lookupD_replace atomH1_ne_D, if_pos rfl]
  simp only [wsum_replace f hk atomH1_ne_D, wsum_replace f hk atomH1_ne_H]
  ring

theorem allData_water (t : Tbl ℝ) (h : Atom) (nd : ℝ) (hh : (t.neutron h).isSome = true)
    (hO : (t.neutron atomO).isSome = true) : AllData t (water t h nd).atoms := by
  intro e he
  simp only [water, List.mem_cons, List.not_mem_nil, or_false] at he
  rcases he with rfl | rfl
  · exact hh
  · exact hO

/-- **C16, solute**: for a physical compound and `0 ≤ d ≤ 1`, the real and imaginary SLD that
    `D2O_sld` reports at volume fraction 1 are those of the compound in which a fraction `d` of the
    labile hydrogens H[1] is replaced by D and the rest by natural H (`substituted`), which has
    the cell volume of the original (`replace_cellVolume`) -/
theorem solute_sld_is_substituted_compound (t : Tbl ℝ) (c : Compound ℝ) (w d : ℝ)
    (h : SolutePhysical t c w) (hd0 : 0 ≤ d) (hd1 : d ≤ 1) :
    ∃ x, d2oSld t c w 1 d = some x ∧
      (compoundSld t (substituted t.atomMass c d) w).map reIm = some (reIm x) := by
  have hm := h.masses
  -- the substituted compounds are sound and have the cell volume of `c`
  obtain ⟨hH, vH⟩ := h.sound.of_replace hm atomH1_ne_H h.dataH zero_le_one le_rfl
  obtain ⟨hD, vD⟩ := h.sound.of_replace hm atomH1_ne_D h.dataD zero_le_one le_rfl
  obtain ⟨h1, v1⟩ := h.sound.of_replace hm atomH1_ne_D h.dataD hd0 hd1
  obtain ⟨hS, vS⟩ : Sound t (substituted t.atomMass c d) ∧
      cellVolume (wsum t.atomMass (substituted t.atomMass c d).atoms)
          (substituted t.atomMass c d).density = _ :=
    h1.of_replace hm atomH1_ne_H h.dataH zero_le_one le_rfl
  -- so their SLDs are linear in their sums, which mix as `d : 1 − d`
  obtain ⟨sH, hsH, eH⟩ := Option.map_eq_some_iff.mp (hH.sld_reIm w hm h.im)
  obtain ⟨sD, hsD, eD⟩ := Option.map_eq_some_iff.mp (hD.sld_reIm w hm h.im)
  obtain ⟨sw1, hw1⟩ := compoundSld_isSome t (water t atomH PtGen.nsf_H2O_natural_density) w
    (allData_water t atomH _ h.dataH h.dataO)
  obtain ⟨sw2, hw2⟩ := compoundSld_isSome t (water t atomD PtGen.nsf_D2O_natural_density) w
    (allData_water t atomD _ h.dataD h.dataO)
  have hslds : d2oSlds t c w = some (sw1, sw2, sH, sD) := by
    unfold d2oSlds
    rw [hw1, hw2, hsH, hsD]
  refine ⟨mixValues sD sH d, by rw [vf1_is_solute, hslds]; rfl, ?_⟩
  rw [vH] at eH
  rw [vD] at eD
  rw [hS.sld_reIm w hm h.im, vS, v1, wsum_substituted _ _ c d h.keys,
    wsum_substituted _ _ c d h.keys]
  simp only [reIm, Prod.mk.injEq] at eH eD
  simp only [reIm, mixValues, eH.1, eH.2, eD.1, eD.2, Option.some.injEq, Prod.mk.injEq]
  constructor <;> ring

end PtProofs.Neutron
