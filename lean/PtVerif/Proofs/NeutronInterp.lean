import PtVerif.Proofs.Neutron
import PtVerif.Proofs.GridSearch
/-!
# The energy-dependent tables (C03)

`numpy.interp` with end clamping on a strictly increasing grid: the search passes every node `≤ x`
(`interpClamp_skip`), and the four documented cases are instances (node and left end here, right
end and between two nodes in `Properties/C03.lean`).  `energy_dependent_init` turns rows of
increasing energy into such a grid (`edNodes_increasing`).
-/
namespace PtProofs.Neutron
open PtModel PtModel.Neutron

/-! ## `numpy.interp` on a strictly increasing grid -/

def Increasing (l : List (ℝ × Cx ℝ)) : Prop := (l.map Prod.fst).Pairwise (· < ·)

theorem lerp_left (x0 : ℝ) (y0 : Cx ℝ) (x1 : ℝ) (y1 : Cx ℝ) : lerp x0 y0 x1 y1 x0 = y0 := by
  unfold lerp; ext <;> simp

theorem lerp_right (x0 : ℝ) (y0 : Cx ℝ) (x1 : ℝ) (y1 : Cx ℝ) (h : x0 ≠ x1) :
    lerp x0 y0 x1 y1 x1 = y1 := by
  have : x1 - x0 ≠ 0 := sub_ne_zero.mpr (Ne.symm h)
  simp only [lerp, div_mul_cancel₀ _ this, sub_add_cancel]

/-- the node rule `x == x0 → y0` agrees with the linear piece -/
theorem interpGo_lt {x0 : ℝ} {y0 : Cx ℝ} {n : ℝ × Cx ℝ} {r : List (ℝ × Cx ℝ)} {x : ℝ}
    (h : x < n.1) : interpGo x0 y0 (n :: r) x = lerp x0 y0 n.1 n.2 x := by
  simp only [interpGo, h, if_true, beq_iff_eq]
  split
  · next hx => rw [hx, lerp_left]
  · rfl

theorem interpGo_ge {x0 : ℝ} {y0 : Cx ℝ} {n : ℝ × Cx ℝ} {r : List (ℝ × Cx ℝ)} {x : ℝ}
    (h : n.1 ≤ x) : interpGo x0 y0 (n :: r) x = interpGo n.1 n.2 r x := by
  simp only [interpGo, not_lt.mpr h, if_false]

/-- `np.interp` on an increasing grid at an `x` right of (or at) a node `n`: the search continues
    from `n`.  The four documented cases are instances. -/
theorem interpClamp_skip (g : Grid ℝ) (hs : Increasing g.toList) {pre post : List (ℝ × Cx ℝ)}
    {n : ℝ × Cx ℝ} (hg : g.toList = pre ++ n :: post) (x : ℝ) (hn : n.1 ≤ x) :
    interpClamp g x = interpGo n.1 n.2 post x := by
  rw [hg] at hs
  have hpre : ∀ m ∈ pre, m.1 ≤ x := fun m hm =>
    ((pairwise_lt_split Prod.fst hs).1 m hm).le.trans hn
  unfold interpClamp
  cases pre with
  | nil =>
    obtain ⟨h1, h2⟩ := List.cons.inj hg
    rw [h1, h2, if_neg (not_lt.mpr hn)]
  | cons m r =>
    obtain ⟨h1, h2⟩ := List.cons.inj hg
    rw [h1, h2, if_neg (not_lt.mpr (hpre m (by simp)))]
    exact scan_drop
      (fun l => match l with
        | [] => g.first.2  -- never the case
        | k :: t => interpGo k.1 k.2 t x)
      Prod.fst x (fun _ _ _ _ hq => interpGo_ge hq) (m :: r) n post hpre hn

/-- at a node: exactly the tabulated value -/
theorem interp_clamp_node (g : Grid ℝ) (hs : Increasing g.toList) (n : ℝ × Cx ℝ)
    (hn : n ∈ g.toList) : interpClamp g n.1 = n.2 := by
  obtain ⟨pre, post, hg⟩ := List.append_of_mem hn
  rw [interpClamp_skip g hs hg n.1 le_rfl]
  cases post with
  | nil => rfl
  | cons m r =>
    rw [hg] at hs
    rw [interpGo_lt ((pairwise_lt_split Prod.fst hs).2 m (by simp)), lerp_left]

/-- left of (or at) the first node: the first value (end clamp) -/
theorem interp_clamp_left (g : Grid ℝ) (hs : Increasing g.toList) (x : ℝ) (h : x ≤ g.first.1) :
    interpClamp g x = g.first.2 := by
  rcases h.lt_or_eq with h | rfl
  · exact if_pos h
  · exact interp_clamp_node g hs g.first List.mem_cons_self

/-! ## `energy_dependent_init`: the table is wavelength-ordered -/

theorem neutronWavelength_strictAnti {e₁ e₂ : ℝ} (h1 : 0 < e₁) (h : e₁ < e₂) :
    neutronWavelength e₂ < neutronWavelength e₁ := by
  unfold neutronWavelength
  apply Real.sqrt_lt_sqrt (div_nonneg energyFactor_pos.le (h1.trans h).le)
  exact div_lt_div_of_pos_left energyFactor_pos h1 h

/-- rows tabulated by strictly increasing positive energy become a grid that is strictly
    increasing in wavelength (energies are converted and both arrays reversed), which is what the
    interpolation theorems assume -/
theorem edNodes_increasing (rows : List (ℝ × ℝ × ℝ))
    (hpos : ∀ r ∈ rows, 0 < r.1) (hinc : (rows.map (·.1)).Pairwise (· < ·)) :
    Increasing (edNodes rows) := by
  unfold Increasing edNodes
  rw [List.map_reverse, List.pairwise_reverse, List.map_map, List.pairwise_map]
  refine (List.pairwise_map.mp hinc).imp_of_mem fun {r r'} hr _ hlt => ?_
  have h1000 : (0 : ℝ) < lit 1000 := by simp [lit]
  exact neutronWavelength_strictAnti (mul_pos (hpos r hr) h1000)
    (mul_lt_mul_of_pos_right hlt h1000)

/-- the values travel with their energies: node `i` from the end is row `i` -/
theorem edNodes_values (rows : List (ℝ × ℝ × ℝ)) :
    (edNodes rows).map (·.2) = (rows.map fun r => (r.2.1, r.2.2)).reverse := by
  unfold edNodes
  rw [List.map_reverse, List.map_map]
  rfl

end PtProofs.Neutron
