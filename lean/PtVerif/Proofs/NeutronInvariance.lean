import PtVerif.Proofs.Neutron
/-!
# C04: invariances of `neutron_scattering` (density, counts, order, grouping, units, vector, sign)

Each invariance is a fact about `wsum` (what the change does to every weighted sum) or about the
arithmetic tail `finish` on an arbitrary accumulator, put together by `neutronScattering_allData`
/ `neutronScattering_congr`.
-/
namespace PtProofs.Neutron
open PtModel hiding hasKey setKey cellVolume naturalMassRatio
open PtModel.Neutron

/-! ## density and cell size: homogeneity of the tail -/

/-- every SLD and cross section times `k`, the penetration depth divided by `k` -/
noncomputable def Scat.scale (k : ℝ) (s : Scat ℝ) : Scat ℝ :=
  ⟨k * s.sldRe, k * s.sldIm, k * s.sldInc, k * s.coh, k * s.abs, k * s.inc, s.pen / k⟩

noncomputable def Outcome.scale (k : ℝ) : Outcome ℝ → Outcome ℝ
  | .missing => .missing
  | .vacuum => .vacuum
  | .ok s => .ok (Scat.scale k s)

theorem calculateScattering_scale (k n w : ℝ) (b : Cx ℝ) (s : ℝ) (hk : 0 < k) :
    calculateScattering (k * n) w b s = Scat.scale k (calculateScattering n w b s) := by
  unfold calculateScattering Scat.scale
  simp only [abs_def, sqrt_def, lit, Scat.mk.injEq]
  have h1 : |(10:ℕ) * (k * n) * b.2| = k * |(10:ℕ) * n * b.2| := by
    rw [show ((10:ℕ):ℝ) * (k * n) * b.2 = k * ((10:ℕ) * n * b.2) by ring, abs_mul, abs_of_pos hk]
  refine ⟨by ring, h1, by ring, by ring, by ring, by ring, ?_⟩
  rw [div_div]
  ring

/-- the cell volume is homogeneous of degree 1 in the mass and −1 in the density -/
theorem cellVolume_mul_left (c M ρ : ℝ) : cellVolume (c * M) ρ = c * cellVolume M ρ := by
  unfold cellVolume; ring

theorem cellVolume_mul_right (k M ρ : ℝ) : cellVolume M (k * ρ) = cellVolume M ρ / k := by
  unfold cellVolume; ring

theorem finish_scale_density (a : Acc ℝ) (ρ w : ℝ) {k : ℝ} (hk : 0 < k) :
    finish a (k * ρ) w = Outcome.scale k (finish a ρ w) := by
  by_cases hz : a.molarMass * ρ = 0
  · rw [finish_vacuum w hz, finish_vacuum w (by rw [mul_left_comm, hz, mul_zero])]
    rfl
  · rw [finish_ok w hz, finish_ok w (by rw [mul_left_comm]; exact mul_ne_zero hk.ne' hz),
      Outcome.scale, ← calculateScattering_scale k _ w _ _ hk]
    rw [cellVolume_mul_right, div_div_eq_mul_div, mul_comm, mul_div_assoc]

/-- **density scaling**: `ρ ↦ kρ` (k > 0) scales every SLD and cross section by `k` and the
    penetration depth by `1/k` -/
theorem scale_density (t : Tbl ℝ) (atoms : List (Atom × ℝ)) (ρ w k : ℝ) (hk : 0 < k) :
    neutronScattering t atoms (k * ρ) w = Outcome.scale k (neutronScattering t atoms ρ w) := by
  by_cases hd : AllData t atoms
  · simp only [neutronScattering_allData t _ w hd, finish_scale_density _ ρ w hk]
  · simp only [neutronScattering_missing t _ w hd]
    rfl

/-- all counts multiplied by `c` -/
def scaleCounts (c : ℝ) (atoms : List (Atom × ℝ)) : List (Atom × ℝ) :=
  atoms.map fun e => (e.1, c * e.2)

theorem allData_scaleCounts (t : Tbl ℝ) (c : ℝ) (atoms : List (Atom × ℝ)) :
    AllData t (scaleCounts c atoms) ↔ AllData t atoms := by
  simp only [allData_iff_keys, scaleCounts, List.map_map]
  rfl

theorem finish_scale_counts (a : Acc ℝ) (ρ w : ℝ) {c : ℝ} (hc : c ≠ 0) :
    finish ⟨c * a.molarMass, c * a.numAtoms, (c * a.bc.1, c * a.bc.2), c * a.sigS⟩ ρ w
      = finish a ρ w := by
  by_cases hz : a.molarMass * ρ = 0
  · rw [finish_vacuum w hz, finish_vacuum w (by rw [mul_assoc, hz, mul_zero])]
  · rw [finish_ok w hz, finish_ok w (by rw [mul_assoc]; exact mul_ne_zero hc hz)]
    simp only [cellVolume_mul_left, mul_div_mul_left _ _ hc]

/-- **cell size**: multiplying every count by `c ≠ 0` changes nothing (`Σ n ≠ 0` is stated so
    that the claim does not rest on `x/0 = 0`) -/
theorem scale_counts (t : Tbl ℝ) (atoms : List (Atom × ℝ)) (ρ w c : ℝ) (hc : c ≠ 0)
    (_hn : Spec.count atoms ≠ 0) :
    neutronScattering t (scaleCounts c atoms) ρ w = neutronScattering t atoms ρ w := by
  by_cases hd : AllData t atoms
  · rw [neutronScattering_allData t _ w ((allData_scaleCounts t c atoms).mpr hd),
      neutronScattering_allData t _ w hd, ← finish_scale_counts (sums t w atoms) ρ w hc]
    simp only [sums, scaleCounts, wsum_map_mul]
  · rw [neutronScattering_missing t _ w (mt (allData_scaleCounts t c atoms).mp hd),
      neutronScattering_missing t _ w hd]

/-! ## order and grouping: the sums do not see them -/

/-- **reordering**: any permutation of the atoms gives the same result -/
theorem perm_invariant (t : Tbl ℝ) {l₁ l₂ : List (Atom × ℝ)} (h : l₁.Perm l₂) (ρ w : ℝ) :
    neutronScattering t l₁ ρ w = neutronScattering t l₂ ρ w :=
  neutronScattering_congr t ρ w (forall_congr' fun _ => by rw [h.mem_iff]) fun f => wsum_perm f h

/-- with non-zero counts, equal counts mean the same keys -/
theorem allData_of_same_counts (t : Tbl ℝ) {l₁ l₂ : List (Atom × ℝ)} (h1 : KeysNodup l₁)
    (hnz1 : ∀ e ∈ l₁, e.2 ≠ 0) (hc : ∀ a, lookupD l₁ a = lookupD l₂ a) (hd : AllData t l₂) :
    AllData t l₁ := fun e he =>
  hd (e.1, lookupD l₂ e.1)
    (mem_of_lookupD_ne_zero (by rw [← hc, lookupD_of_mem h1 he]; exact hnz1 e he))

/-- **regrouping**: two formula structures – any nesting, any grouping, any order – in which
    every atom has the same total count give the same result -/
theorem regroup_invariant (t : Tbl ℝ) (s₁ s₂ : Items ℝ) (ρ w : ℝ)
    (hc : ∀ a, s₁.cnt a = s₂.cnt a)
    (hnz1 : ∀ e ∈ s₁.atoms, e.2 ≠ 0) (hnz2 : ∀ e ∈ s₂.atoms, e.2 ≠ 0) :
    neutronScattering t s₁.atoms ρ w = neutronScattering t s₂.atoms ρ w := by
  have hl : ∀ a, lookupD s₁.atoms a = lookupD s₂.atoms a := fun a => by
    rw [Items.lookupD_atoms, Items.lookupD_atoms, hc]
  exact neutronScattering_congr t ρ w
    ⟨allData_of_same_counts t s₂.keysNodup_atoms hnz2 fun a => (hl a).symm,
      allData_of_same_counts t s₁.keysNodup_atoms hnz1 hl⟩
    fun f => wsum_ext f s₁.keysNodup_atoms s₂.keysNodup_atoms hl

/-- **regrouping, all atoms with data**: two atom dicts with the same counts give the same result,
    whether or not some counts are zero -/
theorem same_counts_invariant (t : Tbl ℝ) {l₁ l₂ : List (Atom × ℝ)} (h1 : KeysNodup l₁)
    (h2 : KeysNodup l₂) (hd1 : AllData t l₁) (hd2 : AllData t l₂)
    (hc : ∀ a, lookupD l₁ a = lookupD l₂ a) (ρ w : ℝ) :
    neutronScattering t l₁ ρ w = neutronScattering t l₂ ρ w :=
  neutronScattering_congr t ρ w (iff_of_true hd1 hd2) fun f => wsum_ext f h1 h2 hc

/-! ## units: energy, wavelength, velocity (over the generated `ENERGY_FACTOR`, `VELOCITY_FACTOR`) -/

theorem velocityFactor_pos : (0 : ℝ) < PtGen.VELOCITY_FACTOR := by
  unfold PtGen.VELOCITY_FACTOR PtGen.plancks_constant PtGen.electron_volt PtGen.neutron_mass
    PtGen.atomic_mass_constant
  positivity

theorem neutronWavelength_pos (e : ℝ) (he : 0 < e) : 0 < neutronWavelength e := by
  exact Real.sqrt_pos.mpr (div_pos energyFactor_pos he)

theorem E_mul_lambda_sq (e : ℝ) (he : 0 < e) :
    e * (neutronWavelength e * neutronWavelength e) = PtGen.ENERGY_FACTOR := by
  unfold neutronWavelength
  rw [sqrt_def, Real.mul_self_sqrt (div_nonneg energyFactor_pos.le he.le)]
  field_simp

theorem v_mul_lambda (v : ℝ) (hv : v ≠ 0) :
    v * neutronWavelengthFromVelocity v = PtGen.VELOCITY_FACTOR := by
  unfold neutronWavelengthFromVelocity; field_simp

theorem energy_wavelength_roundtrip (e : ℝ) (he : 0 < e) :
    neutronEnergy (neutronWavelength e) = e := by
  unfold neutronEnergy
  have h := E_mul_lambda_sq e he
  have hw := (neutronWavelength_pos e he).ne'
  rw [← h]; field_simp

theorem wavelength_energy_roundtrip (w : ℝ) (hw : 0 < w) :
    neutronWavelength (neutronEnergy w) = w := by
  unfold neutronWavelength neutronEnergy
  have hEF := energyFactor_pos
  have : PtGen.ENERGY_FACTOR / (PtGen.ENERGY_FACTOR / (w * w)) = w * w := by field_simp
  rw [this, sqrt_def, Real.sqrt_mul_self hw.le]

/-- **vector of wavelengths**: the `i`-th entry of the vector call is the scalar call at the
    `i`-th wavelength (a missing-data or vacuum result is the same for every entry) -/
theorem vector_is_map (t : Tbl ℝ) (atoms : List (Atom × ℝ)) (ρ : ℝ) (ws : List ℝ) (i : Nat)
    (hi : i < ws.length) :
    (neutronScatteringV t atoms ρ ws).get? i = some (neutronScattering t atoms ρ ws[i]) := by
  unfold neutronScatteringV
  rw [neutronScattering_eq, sumPiece_eq]
  split
  · rfl
  · next hd =>
    have hd : AllData t atoms := not_not.mp fun h => hd ((any_missing_iff t atoms).mpr h)
    rw [molarMassOf_eq, sumsAt_allData t _ hd]
    by_cases hz : wsum t.atomMass atoms * ρ = 0
    · simp [hz, OutcomeV.get?, finish_vacuum (a := sums t ws[i] atoms) _ hz]
    · simp [hz, OutcomeV.get?, hi, finish_ok (a := sums t ws[i] atoms) _ hz, entryAt,
        sumsAt_allData t _ hd, Cx.divS]

theorem calculateScattering_nonneg (n w : ℝ) (b : Cx ℝ) (s : ℝ) (hn : 0 ≤ n) (hw : 0 ≤ w) :
    let r := calculateScattering n w b s
    0 ≤ r.sldIm ∧ 0 ≤ r.sldInc ∧ 0 ≤ r.coh ∧ 0 ≤ r.abs ∧ 0 ≤ r.inc :=
  ⟨abs_nonneg _,
    mul_nonneg (mul_nonneg hn (Real.sqrt_nonneg _)) (Nat.cast_nonneg _),
    mul_nonneg hn (mul_nonneg fourPi100_pos.le (mul_self_nonneg _)),
    mul_nonneg hn (mul_nonneg (mul_nonneg (Nat.cast_nonneg _) (abs_nonneg _)) hw),
    mul_nonneg hn (maxZero_nonneg _)⟩

theorem calculateScattering_pen_pos (n w : ℝ) (b : Cx ℝ) (s : ℝ) (hn : 0 < n) (hw : 0 ≤ w)
    (hs : 0 < s) : 0 < (calculateScattering n w b s).pen :=
  one_div_pos.mpr (add_pos_of_nonneg_of_pos
    (mul_nonneg hn.le (mul_nonneg (mul_nonneg (Nat.cast_nonneg _) (abs_nonneg _)) hw))
    (mul_pos hn hs))

/-- every atom's total cross section at this wavelength is positive -/
def TotalPos (t : Tbl ℝ) (w : ℝ) (atoms : List (Atom × ℝ)) : Prop :=
  ∀ e ∈ atoms, 0 < (pa t w e.1).2

/-- **non-negativity**: for a physical input (N > 0, λ > 0) whose atoms have positive total cross
    sections, imaginary and incoherent SLD and the three cross sections are ≥ 0 and the
    penetration depth is > 0.  The guard is stated: the result is an `ok` computed from a
    strictly positive number density and total cross section, not a by-product of `1/0 = 0`. -/
theorem nonneg (t : Tbl ℝ) (atoms : List (Atom × ℝ)) (ρ w : ℝ)
    (hd : AllData t atoms) (h : Physical t atoms ρ w) (hs : TotalPos t w atoms) :
    ∃ s, neutronScattering t atoms ρ w = .ok s ∧
      0 ≤ s.sldIm ∧ 0 ≤ s.sldInc ∧ 0 ≤ s.coh ∧ 0 ≤ s.abs ∧ 0 ≤ s.inc ∧ 0 < s.pen := by
  have hN := h.numberDensity_pos
  have hsig : 0 < Spec.sigmaS t atoms w := by
    rw [sigmaS_spec, ← count_spec]
    exact div_pos (wsum_pos h.nonempty fun e he => mul_pos (hs e he) (h.counts e he)) h.count_pos
  obtain ⟨a1, a2, a3, a4, a5⟩ := calculateScattering_nonneg (Spec.numberDensity t atoms ρ) w
    (Spec.reB t atoms w, Spec.imBc t atoms w) (Spec.sigmaS t atoms w) hN.le h.wavelength.le
  exact ⟨_, neutronScattering_ok t w hd (mul_ne_zero h.molarMass_pos.ne' h.density.ne'),
    a1, a2, a3, a4, a5, calculateScattering_pen_pos _ _ _ _ hN h.wavelength.le hsig⟩

end PtProofs.Neutron
