import PtVerif.Model.Print
import PtVerif.Model.GrammarSpec
import PtVerif.Proofs.GrammarLex
/-!
# What the printer's numbers are: the digits `natDigits` / `padDigits` write, and the arithmetic of the
`%g` model (decimal exponent, rounding to six digits, lowest decimal terms)

`natDigits` is `Nat.toDigits 10` and `natOf` is `Nat.ofDigitChars 10`, so their facts are the library's.
First, in the grammar's namespace, what its readers (`natOf`, `isDig`, `okWhole`) make of the printed
digits; then, in the printer's, the arithmetic of `%g`.  Core Lean only.
-/
namespace PtModel.Grammar
open PtModel.Print

/-! ## what the grammar's `natOf`, `isDig` and `okWhole` make of the printed digits -/

theorem isDig_digitChar (d : Nat) (h : d < 10) : isDig (Nat.digitChar d) = true := by
  rw [isDig_iff, Nat.toNat_digitChar_of_lt_ten h]; omega

theorem natOf_eq (ds : List Char) : natOf ds = Nat.ofDigitChars 10 ds 0 :=
  congrArg (fun f => List.foldl f 0 ds) (funext fun n => funext fun c => by rw [Nat.mul_comm]; rfl)

theorem natOf_append (a b : List Char) : natOf (a ++ b) = natOf a * 10 ^ b.length + natOf b := by
  rw [natOf_eq, natOf_eq, natOf_eq, Nat.ofDigitChars_append, Nat.ofDigitChars_eq_ofDigitChars_zero,
    Nat.mul_comm]

theorem natOf_singleton_digit (d : Nat) (h : d < 10) : natOf [Nat.digitChar d] = d := by
  simp [natOf, Nat.toNat_digitChar_of_lt_ten h]

/-! ### `natDigits` -/

theorem digitsAux_eq (fuel n : Nat) (acc : List Char) :
    digitsAux fuel n acc = Nat.toDigitsCore 10 fuel n acc := by
  induction fuel generalizing n acc with
  | zero => rfl
  | succ fuel ih => simp only [digitsAux, Nat.toDigitsCore, ih]

theorem natDigits_eq (n : Nat) : natDigits n = Nat.toDigits 10 n := digitsAux_eq _ _ _

theorem natDigits_allDig (n : Nat) : AllDig (natDigits n) := by
  intro c hc
  rw [natDigits_eq] at hc
  -- `isDig` is `Char.isDigit`, by unfolding
  exact Nat.isDigit_of_mem_toDigits (by decide) (by decide) hc

theorem natDigits_ne_nil (n : Nat) : natDigits n ≠ [] := by
  rw [natDigits_eq]; exact Nat.toDigits_ne_nil

theorem natOf_natDigits (n : Nat) : natOf (natDigits n) = n := by
  rw [natOf_eq, natDigits_eq]; exact Nat.ofDigitChars_ten_toDigits

theorem natDigits_zero : natDigits 0 = ['0'] := by decide

theorem natDigits_head (n : Nat) (hn : 0 < n) :
    ∃ d ds, natDigits n = d :: ds ∧ isDig d = true ∧ d.toNat ≠ 48 ∧ AllDig ds := by
  induction n using Nat.strongRecOn with
  | _ n ih =>
    have hall := natDigits_allDig n
    cases h : natDigits n with
    | nil => exact absurd h (natDigits_ne_nil n)
    | cons d ds =>
      rw [h] at hall
      refine ⟨d, ds, rfl, hall.head, ?_, hall.tail⟩
      rw [natDigits_eq, Nat.toDigits_eq_if (by decide)] at h
      split at h
      · rename_i hlt
        obtain ⟨rfl, -⟩ := List.cons.inj h
        rw [Nat.toNat_digitChar_of_lt_ten hlt]
        omega
      · -- the first digit of `n` is the first digit of `n / 10`
        obtain ⟨d', ds', h', -, hd', -⟩ := ih (n / 10) (by omega) (by omega)
        rw [← natDigits_eq, h'] at h
        obtain ⟨rfl, -⟩ := List.cons.inj h
        exact hd'

theorem okWhole_natDigits (n : Nat) (hn : 0 < n) : okWhole (natDigits n) = true := by
  obtain ⟨d, ds, hd, h1, h2, h3⟩ := natDigits_head n hn
  rw [hd]
  simp only [okWhole, Bool.and_eq_true, bne_iff_ne, ne_eq]
  exact ⟨⟨h1, h2⟩, List.all_eq_true.2 h3⟩

/-! ### `padDigits` -/

theorem padDigits_allDig (k v : Nat) : AllDig (padDigits k v) := by
  induction k generalizing v with
  | zero => exact AllDig.nil
  | succ k ih =>
    exact (ih _).append (AllDig.cons (isDig_digitChar _ (Nat.mod_lt _ (by omega))) AllDig.nil)

theorem padDigits_length (k v : Nat) : (padDigits k v).length = k := by
  induction k generalizing v with
  | zero => rfl
  | succ k ih => simp [padDigits, ih]

theorem natOf_padDigits (k v : Nat) : natOf (padDigits k v) = v % 10 ^ k := by
  induction k generalizing v with
  | zero => simp [padDigits, natOf, Nat.mod_one]
  | succ k ih =>
    unfold padDigits
    rw [natOf_append, ih, natOf_singleton_digit _ (Nat.mod_lt _ (by omega))]
    simp only [List.length_singleton, Nat.pow_succ]
    have h1 : v % (10 ^ k * 10) = v % 10 + 10 * (v / 10 % 10 ^ k) := by
      rw [Nat.mul_comm (10 ^ k) 10, Nat.mod_mul]
    omega

end PtModel.Grammar

namespace PtModel.Print
open PtModel.Grammar

/-! ## size of a printed number -/

theorem ndigits_spec (k : Nat) (hk : 0 < k) :
    ∃ j, ndigits k = j + 1 ∧ 10 ^ j ≤ k ∧ k < 10 ^ (j + 1) := by
  have hpos := Nat.length_toDigits_pos (b := 10) (n := k)
  obtain ⟨j, hj⟩ : ∃ j, (Nat.toDigits 10 k).length = j + 1 := ⟨_, (Nat.sub_add_cancel hpos).symm⟩
  refine ⟨j, by rw [ndigits, natDigits_eq, hj], ?_,
    (Nat.length_toDigits_le_iff (by decide) (Nat.succ_pos j)).1 (Nat.le_of_eq hj)⟩
  cases j with
  | zero => exact hk
  | succ i =>
    -- below `10^(i+1)` the number would have at most `i + 1` digits
    apply Nat.le_of_not_lt
    rw [← Nat.length_toDigits_le_iff (by decide) (Nat.succ_pos i), hj]
    omega

/-- the digits of a quotient `x / y ≥ 1`, stated without division -/
theorem ndigits_div (x y : Nat) (hy : 0 < y) (h : y ≤ x) :
    ∃ j, ndigits (x / y) = j + 1 ∧ y * 10 ^ j ≤ x ∧ x < y * 10 ^ (j + 1) := by
  obtain ⟨j, hj, h1, h2⟩ := ndigits_spec (x / y) (Nat.div_pos h hy)
  exact ⟨j, hj, Nat.mul_comm y _ ▸ (Nat.le_div_iff_mul_le hy).1 h1,
    Nat.mul_comm y _ ▸ (Nat.div_lt_iff_lt_mul hy).1 h2⟩

/-! ## the decimal exponent -/

/-- `e = exp10 n d` is the decimal exponent of `n/d`: `10^e ≤ n/d < 10^(e+1)`, cleared of
    denominators (`e.toNat` is `e` or 0, `(-e).toNat` is 0 or `-e`) -/
theorem exp10_spec (n d : Nat) (hn : 0 < n) (hd : 0 < d) :
    d * 10 ^ (exp10 n d).toNat ≤ n * 10 ^ (-exp10 n d).toNat ∧
    n * 10 ^ (-exp10 n d).toNat < d * 10 ^ ((exp10 n d).toNat + 1) := by
  unfold exp10
  split
  · rename_i h
    obtain ⟨j, hj, h1, h2⟩ := ndigits_div n d hd h
    rw [hj, Int.natCast_succ, Int.add_sub_cancel, Int.toNat_natCast, Int.toNat_neg_natCast,
      Nat.pow_zero, Nat.mul_one]
    exact ⟨h1, h2⟩
  · -- `⌈d/n⌉ - 1 = ⌊(d-1)/n⌋ ≥ 1`
    have hc : (d + n - 1) / n - 1 = (d - 1) / n := by
      rw [show d + n - 1 = d - 1 + n by omega, Nat.add_div_right _ hn, Nat.add_sub_cancel]
    obtain ⟨j, hj, h1, h2⟩ := ndigits_div (d - 1) n hn (by omega)
    rw [hc, hj, Int.toNat_neg_natCast, Int.neg_neg, Int.toNat_natCast, Nat.pow_zero, Nat.mul_one,
      Nat.zero_add, Nat.pow_one]
    rw [Nat.pow_succ, ← Nat.mul_assoc] at h2 ⊢
    omega

/-! ## rounding -/

/-- rounding goes down only from the lower half and up only from the upper half (how a tie is
    broken does not matter for any bound below) -/
theorem rhe_cases (N D : Nat) :
    (roundHalfEven N D = N / D ∧ 2 * (N % D) ≤ D) ∨
    (roundHalfEven N D = N / D + 1 ∧ D ≤ 2 * (N % D)) := by
  unfold roundHalfEven
  simp only
  split
  · exact Or.inl ⟨rfl, by omega⟩
  · split
    · exact Or.inr ⟨rfl, by omega⟩
    · rcases Nat.mod_two_eq_zero_or_one (N / D) with h | h <;> rw [h]
      · exact Or.inl ⟨rfl, by omega⟩
      · exact Or.inr ⟨rfl, by omega⟩

theorem rhe_bounds (N D : Nat) : N / D ≤ roundHalfEven N D ∧ roundHalfEven N D ≤ N / D + 1 := by
  rcases rhe_cases N D with ⟨h, _⟩ | ⟨h, _⟩ <;> omega

/-- the rounded value is within half a unit: `|m·D − N| ≤ D/2` -/
theorem rhe_err (N D : Nat) (hD : 0 < D) :
    2 * (roundHalfEven N D * D) ≤ 2 * N + D ∧ 2 * N ≤ 2 * (roundHalfEven N D * D) + D := by
  have hdm := Nat.div_add_mod N D
  have hml := Nat.mod_lt N hD
  rcases rhe_cases N D with ⟨h, h2⟩ | ⟨h, h2⟩ <;> rw [h]
  · rw [Nat.mul_comm (N / D) D]; omega
  · rw [Nat.add_mul, Nat.one_mul, Nat.mul_comm (N / D) D]; omega

theorem rhe_exact (k D : Nat) (hD : 0 < D) : roundHalfEven (k * D) D = k := by
  unfold roundHalfEven
  simp [Nat.mul_div_cancel _ hD, hD]

/-! ## six significant digits -/

/-- the mantissa before the carry: `n/d · 10^(5-e)` rounded to an integer. The two branches of
    `sig6` are one formula, since one of the two powers is `10^0`. -/
def mant (n d : Nat) : Nat :=
  roundHalfEven (n * 10 ^ (5 - exp10 n d).toNat) (d * 10 ^ (exp10 n d - 5).toNat)

theorem sig6_eq (n d : Nat) :
    sig6 n d = if mant n d = 10 ^ 6 then (10 ^ 5, exp10 n d + 1) else (mant n d, exp10 n d) := by
  unfold sig6 mant
  simp only
  split
  · rw [show (exp10 n d - 5).toNat = 0 by omega, Nat.pow_zero, Nat.mul_one]
  · rw [show (5 - exp10 n d).toNat = 0 by omega, Nat.pow_zero, Nat.mul_one]

/-- `10^5 ≤ n/d · 10^(5-e) < 10^6`, cleared of denominators -/
theorem scaled_bounds (n d : Nat) (hn : 0 < n) (hd : 0 < d) :
    10 ^ 5 * (d * 10 ^ (exp10 n d - 5).toNat) ≤ n * 10 ^ (5 - exp10 n d).toNat ∧
    n * 10 ^ (5 - exp10 n d).toNat < 10 ^ 6 * (d * 10 ^ (exp10 n d - 5).toNat) := by
  obtain ⟨h1, h2⟩ := exp10_spec n d hn hd
  generalize exp10 n d = e at *
  -- the three terms are those of `exp10_spec` times `10^k`
  obtain ⟨k, ha, hb⟩ : ∃ k, 5 + (e - 5).toNat = e.toNat + k ∧ (5 - e).toNat = (-e).toNat + k :=
    ⟨5 - e.toNat, by omega, by omega⟩
  have ea : ∀ a b, a + (e - 5).toNat = b + k →
      10 ^ a * (d * 10 ^ (e - 5).toNat) = d * 10 ^ b * 10 ^ k := by
    intro a b h
    rw [Nat.mul_left_comm, ← Nat.pow_add, h, Nat.pow_add, Nat.mul_assoc]
  rw [ea 5 _ ha, ea 6 (e.toNat + 1) (by omega), hb, Nat.pow_add, ← Nat.mul_assoc]
  exact ⟨Nat.mul_le_mul_right _ h1, Nat.mul_lt_mul_of_pos_right h2 (Nat.pow_pos (by omega))⟩

theorem mant_range (n d : Nat) (hn : 0 < n) (hd : 0 < d) : 10 ^ 5 ≤ mant n d ∧ mant n d ≤ 10 ^ 6 := by
  obtain ⟨h1, h2⟩ := scaled_bounds n d hn hd
  have hD : 0 < d * 10 ^ (exp10 n d - 5).toNat := Nat.mul_pos hd (Nat.pow_pos (by omega))
  have hb := rhe_bounds (n * 10 ^ (5 - exp10 n d).toNat) (d * 10 ^ (exp10 n d - 5).toNat)
  rw [← Nat.le_div_iff_mul_le hD] at h1
  rw [← Nat.div_lt_iff_lt_mul hD] at h2
  unfold mant
  omega

theorem sig6_range (n d : Nat) (hn : 0 < n) (hd : 0 < d) :
    10 ^ 5 ≤ (sig6 n d).1 ∧ (sig6 n d).1 < 10 ^ 6 := by
  have := mant_range n d hn hd
  rw [sig6_eq]
  split
  · exact ⟨Nat.le_refl _, show 10 ^ 5 < 10 ^ 6 by decide⟩
  · simp only; omega

/-! ## lowest decimal terms -/

/-- `strip` keeps the value: `num / 10^dec = m / 10^k` -/
theorem strip_value (m k : Nat) : (strip m k).num * 10 ^ k = m * 10 ^ (strip m k).dec := by
  induction k generalizing m with
  | zero => simp [strip]
  | succ k ih =>
    unfold strip
    split
    · rename_i h0
      rw [Nat.pow_succ, ← Nat.mul_assoc, ih, Nat.mul_right_comm, Nat.div_mul_cancel (Nat.dvd_of_mod_eq_zero h0)]
    · rfl

theorem strip_pos (m k : Nat) (h : 0 < m) : 0 < (strip m k).num := by
  induction k generalizing m with
  | zero => simpa [strip]
  | succ k ih =>
    unfold strip
    split
    · exact ih _ (by omega)
    · simpa

/-- no trailing zero is left in the fraction -/
theorem strip_canonical (m k : Nat) : (strip m k).dec = 0 ∨ (strip m k).num % 10 ≠ 0 := by
  induction k generalizing m with
  | zero => simp [strip]
  | succ k ih =>
    unfold strip
    split
    · exact ih _
    · right; simpa

theorem cntOf_pos (m : Nat) (e : Int) (h : 0 < m) : 0 < (cntOf m e).num := by
  unfold cntOf
  split
  · exact Nat.mul_pos h (Nat.pow_pos (by omega))
  · exact strip_pos _ _ h

theorem round6_pos (q : Q) (hn : 0 < q.num) (hd : 0 < q.den) : 0 < (round6 q).num := by
  unfold round6
  have : ¬ q.num = 0 := by omega
  simp only [this, if_false]
  exact cntOf_pos _ _ (by have := (sig6_range q.num q.den hn hd).1; omega)

/-- a count that Python's `count == 1` accepts (any representation `n/n`) rounds to the count 1 -/
theorem round6_of_isOne (c : Q) (hd : 0 < c.den) (h : c.isOne = true) : round6 c = Cnt.one := by
  obtain ⟨m, n⟩ := c
  obtain rfl : m = n := by simpa [Q.isOne] using h
  have hn : 0 < m := hd
  have he : exp10 m m = 0 := by
    unfold exp10; simp [Nat.div_self hn, (by decide : ndigits 1 = 1)]
  have hr : roundHalfEven (m * 100000) m = 100000 := by
    rw [Nat.mul_comm]; exact rhe_exact _ _ hn
  have hs : sig6 m m = (10 ^ 5, 0) := by
    unfold sig6
    simp only [he]
    simp [hr]
  rw [round6, if_neg (Nat.pos_iff_ne_zero.1 hn), hs]
  decide

end PtModel.Print
