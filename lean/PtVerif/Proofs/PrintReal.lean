import PtVerif.Proofs.PrintNum
import PtVerif.Model.GrammarSpec
import Mathlib.Algebra.Order.Field.Rat
import Mathlib.Algebra.Order.Field.Power
import Mathlib.Tactic.Positivity
import Mathlib.Tactic.Linarith
import Mathlib.Tactic.Ring
/-!
# What `sig6` and `round6` compute, in ℚ

With `e = exp10 n d` and `m = mant n d`: `10^e ≤ n/d < 10^(e+1)` (`exp10_val`), `m` is an integer within
`1/2` of `n/d / 10^(e-5)`, the quotient that `mant` rounds (`scaled_val`, `rhe_scaled`), and `round6`
denotes `m · 10^(e-5)` (`round6_toRat`).  C13's rounding theorems are put together from these.
-/
namespace PtModel.Print
open PtModel.Grammar

/-- the exact value of a Python count -/
def Q.val (q : Q) : ℚ := (q.num : ℚ) / (q.den : ℚ)

theorem ten_zpow_pos (e : ℤ) : (0 : ℚ) < (10 : ℚ) ^ e := by positivity

theorem ten_ne_zero : (10 : ℚ) ≠ 0 := by norm_num

theorem ten_zpow_eq (k : ℤ) : (10 : ℚ) ^ k = (10 : ℚ) ^ k.toNat / (10 : ℚ) ^ (-k).toNat := by
  obtain ⟨j, rfl | rfl⟩ := k.eq_nat_or_neg
  · simp
  · simp

theorem strip_toRat (m k : ℕ) : (strip m k).toRat = (m : ℚ) / (10 : ℚ) ^ k := by
  have h := strip_value m k
  unfold Cnt.toRat
  rw [div_eq_div_iff (by positivity) (by positivity)]
  exact_mod_cast h

theorem cntOf_toRat (m : ℕ) (e : ℤ) : (cntOf m e).toRat = (m : ℚ) * (10 : ℚ) ^ (e - 5) := by
  unfold cntOf
  rw [ten_zpow_eq (e - 5), neg_sub]
  split
  · rw [show (5 - e).toNat = 0 by omega]; simp [Cnt.toRat]
  · rw [strip_toRat, show (e - 5).toNat = 0 by omega]; simp [div_eq_mul_inv]

theorem rhe_abs (N D : ℕ) (hD : 0 < D) : |(roundHalfEven N D : ℚ) - (N : ℚ) / D| ≤ 1 / 2 := by
  obtain ⟨h1, h2⟩ := rhe_err N D hD
  have hDq : (0 : ℚ) < D := by exact_mod_cast hD
  have h1' : (2 * (roundHalfEven N D * D) : ℚ) ≤ 2 * N + D := by exact_mod_cast h1
  have h2' : (2 * N : ℚ) ≤ 2 * (roundHalfEven N D * D) + D := by exact_mod_cast h2
  rw [sub_div' hDq.ne', abs_div, abs_of_pos hDq, div_le_iff₀ hDq, abs_le]
  constructor
  · linarith only [h2']
  · linarith only [h1']

/-- the quotient that `mant` rounds is `n/d` in units of `10^(e-5)` -/
theorem scaled_val (n d : ℕ) (e : ℤ) :
    ((n * 10 ^ (5 - e).toNat : ℕ) : ℚ) / ((d * 10 ^ (e - 5).toNat : ℕ) : ℚ) =
      (n : ℚ) / d / (10 : ℚ) ^ (e - 5) := by
  rw [ten_zpow_eq (e - 5), neg_sub, div_div_div_eq]
  push_cast
  rfl

/-- `exp10 n d = ⌊log10 (n/d)⌋` -/
theorem exp10_val (n d : ℕ) (hn : 0 < n) (hd : 0 < d) :
    (10 : ℚ) ^ exp10 n d ≤ (n : ℚ) / d ∧ (n : ℚ) / d < (10 : ℚ) ^ (exp10 n d + 1) := by
  obtain ⟨h1, h2⟩ := exp10_spec n d hn hd
  have hdq : (0 : ℚ) < d := Nat.cast_pos.2 hd
  rw [zpow_add_one₀ ten_ne_zero, ten_zpow_eq, div_mul_eq_mul_div, div_le_div_iff₀ (by positivity) hdq,
    div_lt_div_iff₀ hdq (by positivity), ← pow_succ, mul_comm _ (d : ℚ), mul_comm _ (d : ℚ)]
  exact ⟨by exact_mod_cast h1, by exact_mod_cast h2⟩

/-- whatever the exponent `e`: `n/d` in units of `10^(e-5)`, rounded to an integer `m`, gives `m · 10^(e-5)`
    within half a unit of `n/d` (`mant n d` is this `m` for `e = exp10 n d`) -/
theorem rhe_scaled (n d : ℕ) (hd : 0 < d) (e : ℤ) :
    |(roundHalfEven (n * 10 ^ (5 - e).toNat) (d * 10 ^ (e - 5).toNat) : ℚ) * (10 : ℚ) ^ (e - 5) -
      (n : ℚ) / d| ≤ (10 : ℚ) ^ (e - 5) / 2 := by
  have herr := rhe_abs (n * 10 ^ (5 - e).toNat) (d * 10 ^ (e - 5).toNat)
    (Nat.mul_pos hd (Nat.pow_pos (by omega)))
  have hu := ten_zpow_pos (e - 5)
  rw [scaled_val, sub_div' hu.ne', abs_div, abs_of_pos hu, div_le_iff₀ hu, one_div_mul_eq_div] at herr
  exact herr

/-- the pair `sig6` returns denotes `m · 10^(e-5)`, also after the carry to `10^6` -/
theorem sig6_val (n d : ℕ) :
    ((sig6 n d).1 : ℚ) * (10 : ℚ) ^ ((sig6 n d).2 - 5) = (mant n d : ℚ) * (10 : ℚ) ^ (exp10 n d - 5) := by
  rw [sig6_eq]
  split
  · rename_i h
    rw [h, add_sub_right_comm, zpow_add_one₀ ten_ne_zero]
    push_cast; ring
  · rfl

theorem round6_toRat (q : Q) (hn : 0 < q.num) :
    (round6 q).toRat = (mant q.num q.den : ℚ) * (10 : ℚ) ^ (exp10 q.num q.den - 5) := by
  rw [round6, if_neg hn.ne', cntOf_toRat, sig6_val]

theorem nat_eq_of_abs_sub_le_half {m k : ℕ} (h : |(m : ℚ) - k| ≤ 1 / 2) : m = k := by
  -- the integer `m - k` has absolute value below 1
  have h1 : |(((m : ℤ) - k : ℤ) : ℚ)| < 1 := by
    rw [Int.cast_sub, Int.cast_natCast, Int.cast_natCast]
    exact lt_of_le_of_lt h one_half_lt_one
  rw [← Int.cast_abs, ← Int.cast_one, Int.cast_lt, Int.abs_lt_one_iff, sub_eq_zero] at h1
  exact_mod_cast h1

end PtModel.Print
