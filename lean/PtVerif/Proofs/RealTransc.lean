import PtVerif.Num
import Mathlib.Analysis.SpecialFunctions.Trigonometric.Basic
import Mathlib.Analysis.SpecialFunctions.Log.Basic

/-! The `ℝ` interpretation of the non-algebraic operations (proof files only). -/
noncomputable instance : Transc ℝ :=
  ⟨Real.exp, Real.log, Real.sqrt, Real.cos, Real.pi, fun x => |x|⟩

@[simp] theorem Transc.exp_real (x : ℝ) : Transc.exp x = Real.exp x := rfl
@[simp] theorem Transc.log_real (x : ℝ) : Transc.log x = Real.log x := rfl
@[simp] theorem Transc.sqrt_real (x : ℝ) : Transc.sqrt x = Real.sqrt x := rfl
@[simp] theorem Transc.cos_real (x : ℝ) : Transc.cos x = Real.cos x := rfl
@[simp] theorem Transc.pi_real : (Transc.pi : ℝ) = Real.pi := rfl
@[simp] theorem Transc.abs_real (x : ℝ) : Transc.abs x = |x| := rfl
