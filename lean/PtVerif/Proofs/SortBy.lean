import PtVerif.Model.Formula
import Mathlib.Data.List.Sort

/-! The stable insertion sort `sortBy` of the model is Mathlib's `insertionSort`. -/
namespace PtModel

theorem insertBy_eq {β : Type} (le : β → β → Bool) (x : β) (l : List β) :
    insertBy le x l = l.orderedInsert (fun a b => le a b = true) x := by
  induction l with
  | nil => rfl
  | cons y r ih => simp only [insertBy, List.orderedInsert_cons, ih]

theorem sortBy_eq {β : Type} (le : β → β → Bool) (l : List β) :
    sortBy le l = l.insertionSort (fun a b => le a b = true) := by
  induction l with
  | nil => rfl
  | cons y r ih => simp only [sortBy, List.insertionSort_cons, ih, insertBy_eq]

theorem perm_sortBy {β : Type} (le : β → β → Bool) (l : List β) : (sortBy le l).Perm l := by
  rw [sortBy_eq]; exact List.perm_insertionSort _ l

theorem pairwise_sortBy {β : Type} (le : β → β → Bool) [Std.Total fun a b => le a b = true]
    [IsTrans β fun a b => le a b = true] (l : List β) :
    (sortBy le l).Pairwise fun a b => le a b = true := by
  rw [sortBy_eq]; exact List.pairwise_insertionSort _ l

end PtModel
