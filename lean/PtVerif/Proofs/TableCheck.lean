/-!
# Checkers for facts about the generated tables

A fact about a fixed table is proved by kernel evaluation (`decide +kernel`).  What the kernel
evaluates decides the price: it pays for every step of a structural recursion, much more for an
instance of `Decidable` than for a `Bool`, and far more for `String` than for `Nat`.  So each *kind*
of table fact that several tables share has one Boolean checker here that recurses once over the
table and compares natural numbers with `Nat.beq` / `Nat.blt` (which the kernel computes on binary
numerals), and one theorem saying what a `true` answer means.  Checkers that belong to one table
stand with it: `weightConsistent` (LoadersMass), `magAgree` (Ancillary), `j0Ok`, `f0Ok`
(AncillaryField), `decIncreasing` (LoadersNsfField).

* distinct keys: `incr` (strictly increasing; one pass) or `distinct` (any numbers in any order; a
  number is compared with the later ones only if `maybeIn`, so in effect one pass) on `l.map key`
  for *any* `key : α → Nat` – no injectivity is needed, since `(l.map key).Nodup` gives `l.Nodup`
  (`nodup_of_map`);
* a key occurs in a table: `bits` (small numbers, as the set bits of one number), `within` (both
  tables in the same order; one pass over both), or `List.isSublist` of core, which also hands
  distinctness down;
* entries with the same key carry the same value: `agree` (compared under `maybeIn` as well).
-/
namespace PtCheck

variable {α β : Type}

/-! ## sets of small numbers

The set of some small numbers (symbol codes, `64·Z + charge`, residues: below 10⁵, say) fits in the
bits of one natural number, and a membership test is one shift.  A number `k` costs `k` bits: fine
for `strKey` of a string of one or two bytes (element symbols: below 2¹⁶), not of a longer one.
The set of a tail is a subterm of the set of the list, so a checker that asks for the set of every
tail in turn (`distinct`, `agree`) has the kernel compute each once: one pass. -/

/-- the numbers of a list as the set bits of one number -/
def bits : List Nat → Nat
  | [] => 0
  | k :: l => bits l ||| 2 ^ k

theorem testBit_bits {l : List Nat} {k : Nat} : (bits l).testBit k = true ↔ k ∈ l := by
  induction l with
  | nil => simp [bits]
  | cons a l ih =>
    rw [bits, Nat.testBit_or, Bool.or_eq_true, Nat.testBit_two_pow, decide_eq_true_eq, ih,
      List.mem_cons, or_comm, eq_comm]

/-- `a` may be one of the numbers of `l`: its residue is among their residues.  The test stands in
    front of a scan of `l` and is sound for any modulus, with no injectivity: a number of `l` has
    its residue among the residues, and two residues that coincide only cost the scan that would
    have been made anyway.  The modulus is a prime because keys are built in powers of two
    (`strKey`, `symCode·1024 + charge`), which a power of two would cut down to their low digits. -/
def maybeIn (a : Nat) (l : List Nat) : Bool := (bits (l.map (· % 65521))).testBit (a % 65521)

theorem maybeIn_of_mem {a : Nat} {l : List Nat} (h : a ∈ l) : maybeIn a l = true :=
  testBit_bits.mpr (List.mem_map_of_mem h)

/-! ## distinct keys -/

/-- strictly increasing -/
def incr : List Nat → Bool
  | [] => true
  | [_] => true
  | a :: b :: l => Nat.blt a b && incr (b :: l)

theorem incr_cons {a : Nat} {l : List Nat} (h : incr (a :: l) = true) :
    (∀ b ∈ l, a < b) ∧ incr l = true := by
  induction l generalizing a with
  | nil => exact ⟨fun _ hb => (nomatch hb), rfl⟩
  | cons x l ih =>
    simp only [incr, Bool.and_eq_true, Nat.blt_eq] at h
    refine ⟨fun b hb => ?_, h.2⟩
    rcases List.mem_cons.mp hb with rfl | hb
    · exact h.1
    · exact Nat.lt_trans h.1 ((ih h.2).1 b hb)

theorem nodup_of_incr {l : List Nat} (h : incr l = true) : l.Nodup := by
  induction l with
  | nil => exact .nil
  | cons a l ih => exact .cons (fun b hb => Nat.ne_of_lt ((incr_cons h).1 b hb)) (ih (incr_cons h).2)

/-- `a` is none of the numbers of the list -/
def notIn (a : Nat) : List Nat → Bool
  | [] => true
  | b :: l => !Nat.beq a b && notIn a l

theorem notIn_ne {a : Nat} {l : List Nat} (h : notIn a l = true) : ∀ b ∈ l, a ≠ b := by
  induction l with
  | nil => exact fun _ hb => nomatch hb
  | cons x l ih =>
    simp only [notIn, Bool.and_eq_true, Bool.not_eq_true'] at h
    intro b hb
    rcases List.mem_cons.mp hb with rfl | hb
    · exact Nat.ne_of_beq_eq_false h.1
    · exact ih h.2 b hb

/-- no number occurs twice (a number is compared with the later ones only if `maybeIn`) -/
def distinct : List Nat → Bool
  | [] => true
  | a :: l => (!maybeIn a l || notIn a l) && distinct l

theorem nodup_of_distinct {l : List Nat} (h : distinct l = true) : l.Nodup := by
  induction l with
  | nil => exact .nil
  | cons a l ih =>
    simp only [distinct, Bool.and_eq_true, Bool.or_eq_true, Bool.not_eq_true'] at h
    refine .cons (fun b hb e => ?_) (ih h.2)
    subst e
    rcases h.1 with h1 | h1
    · exact Bool.false_ne_true (h1.symm.trans (maybeIn_of_mem hb))
    · exact notIn_ne h1 a hb rfl

theorem nodup_of_map (f : α → β) {l : List α} (h : (l.map f).Nodup) : l.Nodup :=
  (List.pairwise_map.mp h).imp fun h e => h (congrArg f e)

/-- a number that tells strings apart, for `nodup_of_map` (the bytes in base 256) -/
def strKey (s : String) : Nat := s.toByteArray.data.toList.foldl (fun n b => n * 256 + b.toNat) 0

/-! ## lookup by a distinct key -/

theorem find?_key_of_mem {κ : Type} [DecidableEq κ] (key : α → κ) {l : List α}
    (hnd : (l.map key).Nodup) {x : α} (hx : x ∈ l) :
    l.find? (fun r => decide (key r = key x)) = some x := by
  induction l with
  | nil => cases hx
  | cons a l ih =>
    rw [List.map_cons, List.nodup_cons] at hnd
    rcases List.mem_cons.mp hx with rfl | hx
    · simp
    · rw [List.find?_cons_of_neg, ih hnd.2 hx]
      simp only [decide_eq_true_eq]
      exact fun e => hnd.1 (e ▸ List.mem_map_of_mem hx)

/-! ## entries with the same key agree -/

/-- entries with the same key carry the same value (an entry is compared with the later ones only if
    its key may be among theirs) -/
def agree [BEq β] : List (Nat × β) → Bool
  | [] => true
  | p :: l =>
    (!maybeIn p.1 (l.map (·.1)) || l.all (fun q => !Nat.beq p.1 q.1 || p.2 == q.2)) && agree l

theorem pairwise_of_agree [BEq β] [LawfulBEq β] {l : List (Nat × β)} (h : agree l = true) :
    l.Pairwise fun p q => p.1 = q.1 → p.2 = q.2 := by
  induction l with
  | nil => exact .nil
  | cons p l ih =>
    simp only [agree, Bool.and_eq_true, Bool.or_eq_true, Bool.not_eq_true', List.all_eq_true,
      beq_iff_eq] at h
    refine .cons (fun q hq e => ?_) (ih h.2)
    rcases h.1 with h1 | h1
    · exact absurd (h1.symm.trans (maybeIn_of_mem (e ▸ List.mem_map_of_mem hq))) Bool.false_ne_true
    · exact (h1 q hq).resolve_left (by simp [e])

theorem eq_of_agree [BEq β] [LawfulBEq β] {l : List (Nat × β)} (h : agree l = true)
    {p q : Nat × β} (hp : p ∈ l) (hq : q ∈ l) (e : p.1 = q.1) : p.2 = q.2 :=
  (pairwise_of_agree h).forall_of_forall_of_flip (fun _ _ _ => rfl)
    ((pairwise_of_agree h).imp fun h e => (h e.symm).symm) hp hq e

/-! ## every entry of one table occurs in another -/

/-- `rows` can be read off `tbl` from left to right, each entry of `tbl` serving any number of
    consecutive rows -/
def within [BEq α] : List α → List α → Bool
  | rows, [] => rows.isEmpty
  | rows, t :: tbl => within (rows.dropWhile (· == t)) tbl

theorem mem_of_within [BEq α] [LawfulBEq α] {rows tbl : List α} (h : within rows tbl = true) :
    ∀ r ∈ rows, r ∈ tbl := by
  induction tbl generalizing rows with
  | nil =>
    rw [within, List.isEmpty_iff] at h
    subst h
    exact fun _ hr => nomatch hr
  | cons t tbl ih =>
    intro r hr
    rw [← List.takeWhile_append_dropWhile (p := (· == t)) (l := rows), List.mem_append] at hr
    rcases hr with hr | hr
    · have : (r == t) = true := List.all_eq_true.mp (List.all_takeWhile (p := (· == t))) r hr
      exact eq_of_beq this ▸ List.mem_cons_self
    · exact List.mem_cons_of_mem _ (ih h r hr)

end PtCheck
