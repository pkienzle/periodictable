import PtVerif.Model.Xray
import PtVerif.Proofs.Formula
import PtVerif.Proofs.SortBy
import PtVerif.Proofs.GridSearch
import Mathlib.Data.List.DropRight
import Mathlib.Tactic.FieldSimp

/-! The x-ray model (C05).  The interpolation search passes over any prefix that lies left of `x`
(`interpNaN_drop`), which with `interpNaN_left` fixes its value everywhere on an increasing table; a
loaded table is increasing because it is a sorted permutation of rows with distinct energies;
`xray_sld` is the prefactor `sldN` times weighted sums over the atoms dict (`xraySld_ok`). -/
namespace PtModel.Xray

section Interp
variable {α : Type} [Field α] [LinearOrder α]

def Increasing (t : List (α × Option α)) : Prop := (t.map Prod.fst).Pairwise (· < ·)

theorem interpNaN_left (p : α × Option α) (t : List (α × Option α)) (x : α) (h : x < p.1) :
    interpNaN (p :: t) x = none := by
  cases t with
  | nil => simp [interpNaN, ne_of_lt h]
  | cons q r => simp [interpNaN, h]

theorem interpNaN_skip (p r : α × Option α) (t : List (α × Option α)) (x : α)
    (h0 : p.1 ≤ x) (h1 : r.1 ≤ x) : interpNaN (p :: r :: t) x = interpNaN (r :: t) x := by
  simp only [interpNaN]
  simp [not_lt.mpr h0, not_lt.mpr h1]

theorem interpNaN_drop (pre : List (α × Option α)) (r : α × Option α) (t : List (α × Option α))
    (x : α) (hpre : ∀ m ∈ pre, m.1 ≤ x) (hr : r.1 ≤ x) :
    interpNaN (pre ++ r :: t) x = interpNaN (r :: t) x :=
  scan_drop (interpNaN · x) Prod.fst x (fun p q t => interpNaN_skip p q t x) pre r t hpre hr

theorem interpNaN_right (t : List (α × Option α)) (x : α) (h : ∀ p ∈ t, p.1 < x) :
    interpNaN t x = none := by
  rcases t.eq_nil_or_concat' with rfl | ⟨pre, p, rfl⟩
  · rfl
  · have hp : p.1 < x := h p (by simp)
    rw [interpNaN_drop pre p [] x (fun m hm => (h m (by simp [hm])).le) hp.le]
    simp [interpNaN, hp.ne']

theorem interpNaN_node (t : List (α × Option α)) (ht : Increasing t) (p : α × Option α)
    (hp : p ∈ t) : interpNaN t p.1 = p.2 := by
  obtain ⟨pre, post, rfl⟩ := List.append_of_mem hp
  have hs := pairwise_lt_split Prod.fst ht
  rw [interpNaN_drop pre p post p.1 (fun m hm => (hs.1 m hm).le) le_rfl]
  cases post with
  | nil => simp [interpNaN]
  | cons q post' => obtain ⟨x1, y1⟩ := q; simp [interpNaN, hs.2 (x1, y1) List.mem_cons_self]

end Interp

/-! ## the loaded table is ordered by energy -/
section Sorted
variable {α : Type} [Field α] [LinearOrder α]

omit [Field α] in
theorem nodeLe_iff (a b : Node α) : nodeLe a b = true ↔ a.e ≤ b.e := by
  simp [nodeLe]

instance : Std.Total fun a b : Node α => nodeLe a b = true :=
  ⟨fun a b => by simp only [nodeLe_iff]; exact le_total _ _⟩

instance : IsTrans (Node α) fun a b => nodeLe a b = true :=
  ⟨fun a b c => by simp only [nodeLe_iff]; exact le_trans⟩

def DistinctEnergies (rows : List (α × α × α)) : Prop := (rows.map fun r => (loadRow r).e).Nodup

theorem loadTable_increasing (rows : List (α × α × α)) (hd : DistinctEnergies rows) :
    ((loadTable rows).map (·.e)).Pairwise (· < ·) := by
  -- sorted, and a permutation of rows whose energies are distinct
  have hs : ((loadTable rows).map (·.e)).Pairwise (· ≤ ·) :=
    List.pairwise_map.2 ((pairwise_sortBy nodeLe _).imp (nodeLe_iff _ _).1)
  have hp : (loadTable rows).Perm (rows.map loadRow) := perm_sortBy _ _
  have hn : ((loadTable rows).map (·.e)).Nodup := by
    rw [(hp.map _).nodup_iff, List.map_map]
    exact hd
  exact (hs.and hn).imp fun h => lt_of_le_of_ne h.1 h.2

omit [Field α] in
theorem increasing_column (g : Node α → Option α) (t : List (Node α))
    (h : (t.map (·.e)).Pairwise (· < ·)) : Increasing (t.map fun n => (n.e, g n)) := by
  unfold Increasing; rwa [List.map_map]

theorem interpNaN_column (g : Node α → Option α) (t : List (Node α))
    (h : (t.map (·.e)).Pairwise (· < ·)) (n : Node α) (hn : n ∈ t) :
    interpNaN (t.map fun n => (n.e, g n)) n.e = g n :=
  interpNaN_node _ (increasing_column g t h) (n.e, g n) (List.mem_map_of_mem hn)

end Sorted

/-! ## `xray_sld` is the documented sum -/
section SldSpec
variable {α : Type} [Field α]

/-- all atoms have a table and the energy is inside every table's numeric range:
    the loop returns the three weighted sums -/
theorem sumLoop_ok (am f1 f2 : Atom → α) (sf : Atom → Option (Option α × Option α))
    (t : List (Atom × α)) (h : ∀ e ∈ t, sf e.1 = some (some (f1 e.1), some (f2 e.1)))
    (m x y : α) :
    sumLoop am sf t (m, some x, some y)
      = .ok (m + wsum am t, some (x + wsum f1 t), some (y + wsum f2 t)) := by
  induction t generalizing m x y with
  | nil => simp only [sumLoop, wsum_nil, add_zero]
  | cons e r ih =>
    simp only [sumLoop, h e List.mem_cons_self, oadd, omul,
      ih fun e he => h e (List.mem_cons_of_mem _ he), wsum_cons, add_assoc]

theorem sumLoop_noTable (am : Atom → α) (sf : Atom → Option (Option α × Option α))
    (t : List (Atom × α)) (h : ∃ e ∈ t, sf e.1 = none) (acc : α × Option α × Option α) :
    sumLoop am sf t acc = .error .noTable := by
  induction t generalizing acc with
  | nil => simp at h
  | cons e r ih =>
    obtain ⟨a, n⟩ := e
    rw [List.exists_mem_cons_iff] at h
    cases hs : sf a with
    | none => simp only [sumLoop, hs]
    | some v =>
      simp only [sumLoop, hs]
      exact ih (h.resolve_left fun hn => by rw [hs] at hn; cases hn) _

/-- the SLD prefactor `N = density/mass*avogadro_number*1e-8` -/
def sldN (d m : α) : α := d / m * PtGen.avogadro_number * (((1 : ℕ) : α) / ((100000000 : ℕ) : α))

theorem sldN_mul (k d m : α) : sldN (k * d) m = k * sldN d m := by unfold sldN; ring

theorem scaleSld_mul (k N : α) (s : Option α) : scaleSld (k * N) s = (scaleSld N s).map (k * ·) := by
  cases s <;> simp [scaleSld, mul_assoc]

/-- `k ·` on both SLDs, a NaN staying NaN: what scaling the density by `k` does to a result -/
def scalePair (k : α) (p : Option α × Option α) : Option α × Option α :=
  (p.1.map (k * ·), p.2.map (k * ·))

variable [DecidableEq α]

theorem xraySld_some (am : Atom → α) (sf : Atom → Option (Option α × Option α))
    (t : List (Atom × α)) (d : α) :
    xraySld am sf t (some d) = (sumLoop am sf t (0, some 0, some 0)).map fun acc =>
      if acc.1 = 0 then (some 0, some 0)
      else (scaleSld (sldN d acc.1) acc.2.1, scaleSld (sldN d acc.1) acc.2.2) := by
  unfold xraySld
  cases sumLoop am sf t (0, some 0, some 0) with
  | error e => rfl
  | ok acc => simp only [beq_iff_eq, Except.map, apply_ite Except.ok]; rfl

/-- **`xray_sld` is r_e·N_A·ρ/m·Σ n f** over the atoms dict (all atoms tabulated, energy in
    range), `(0, 0)` for the empty formula -/
theorem xraySld_ok (am f1 f2 : Atom → α) (sf : Atom → Option (Option α × Option α))
    (t : List (Atom × α)) (d : α) (h : ∀ e ∈ t, sf e.1 = some (some (f1 e.1), some (f2 e.1))) :
    xraySld am sf t (some d)
      = .ok (if wsum am t = 0 then (some 0, some 0) else
          (some (sldN d (wsum am t) * wsum f1 t * PtGen.electron_radius),
           some (sldN d (wsum am t) * wsum f2 t * PtGen.electron_radius))) := by
  rw [xraySld_some, sumLoop_ok am f1 f2 sf t h]
  simp only [zero_add, Except.map, scaleSld]

theorem xraySld_eq_spec (am f1 f2 : Atom → α) (sf : Atom → Option (Option α × Option α))
    (s : Items α) (d : α)
    (h : ∀ e ∈ s.atoms, sf e.1 = some (some (f1 e.1), some (f2 e.1)))
    (hm : s.flatMass am ≠ 0) :
    xraySld am sf s.atoms (some d)
      = .ok (some (sldN d (s.flatMass am) * s.flatMass f1 * PtGen.electron_radius),
             some (sldN d (s.flatMass am) * s.flatMass f2 * PtGen.electron_radius)) := by
  simp only [xraySld_ok am f1 f2 sf _ d h, Items.wsum_atoms, if_neg hm]

/-- the empty formula (`mass == 0`) has SLD `(0, 0)` -/
theorem xraySld_mass_zero (am f1 f2 : Atom → α) (sf : Atom → Option (Option α × Option α))
    (s : Items α) (d : α)
    (h : ∀ e ∈ s.atoms, sf e.1 = some (some (f1 e.1), some (f2 e.1)))
    (hm : s.flatMass am = 0) :
    xraySld am sf s.atoms (some d) = .ok (some 0, some 0) := by
  simp only [xraySld_ok am f1 f2 sf _ d h, Items.wsum_atoms, if_pos hm]

/-- an atom without a table: `ValueError` -/
theorem xraySld_noTable (am : Atom → α) (sf : Atom → Option (Option α × Option α))
    (t : List (Atom × α)) (d : α) (h : ∃ e ∈ t, sf e.1 = none) :
    xraySld am sf t (some d) = .error .noTable := by
  rw [xraySld_some, sumLoop_noTable am sf t h]
  rfl

/-- no density: `AssertionError` -/
theorem xraySld_noDensity (am : Atom → α) (sf : Atom → Option (Option α × Option α))
    (t : List (Atom × α)) : xraySld am sf t none = .error .noDensity := rfl

end SldSpec

/-! ## isotope independence at equal natural density -/
section Isotope
variable {α : Type} [Field α]

mutual
theorem flatMass_mapFrag (w : Atom → α) (ρ : Atom → Atom) (f : Frag α) :
    (mapFrag ρ f).flatMass w = f.flatMass (fun a => w (ρ a)) := by
  cases f with
  | atom a => simp [mapFrag, Frag.flatMass]
  | group is => exact flatMass_mapItems w ρ is
theorem flatMass_mapItems (w : Atom → α) (ρ : Atom → Atom) (s : Items α) :
    (mapItems ρ s).flatMass w = s.flatMass (fun a => w (ρ a)) := by
  cases s with
  | nil => simp [mapItems, Items.flatMass]
  | cons c f r =>
    simp only [mapItems, Items.flatMass]
    rw [flatMass_mapFrag w ρ f, flatMass_mapItems w ρ r]
end

theorem densityOfNatural_eq (am nm : Atom → α) (s : Items α) (nd : α) :
    densityOfNatural am nm s.atoms nd = nd / (s.flatMass nm / s.flatMass am) := by
  unfold densityOfNatural
  rw [Items.massOf_atoms, Items.massOf_atoms]

/-- at a given natural density the SLD prefactor depends only on the natural mass -/
theorem sldN_natural (nd Mn M : α) (hM : M ≠ 0) :
    sldN (nd / (Mn / M)) M = sldN nd Mn := by
  unfold sldN
  rw [div_div, div_mul_cancel₀ _ hM]

end Isotope

section Convert
variable {α : Type} [Field α] [CharZero α]

theorem hc_ne_zero : (PtGen.plancks_constant * PtGen.speed_of_light : α) ≠ 0 := by
  unfold PtGen.plancks_constant PtGen.speed_of_light
  norm_num

theorem xrayEnergy_xrayWavelength (e : α) (he : e ≠ 0) : xrayEnergy (xrayWavelength e) = e := by
  unfold xrayEnergy xrayWavelength
  have h := hc_ne_zero (α := α)
  generalize (PtGen.plancks_constant * PtGen.speed_of_light : α) = k at h ⊢
  field_simp

-- both conversions are `x ↦ h·c/x·1e7`, the same term
theorem xrayWavelength_xrayEnergy (w : α) (hw : w ≠ 0) : xrayWavelength (xrayEnergy w) = w :=
  xrayEnergy_xrayWavelength w hw

end Convert

/-! ## `fxrayatstol`: the table key of an (element symbol, charge) pair -/
def stripSet : List Char := ['0', '1', '2', '3', '4', '5', '6', '7', '8', '+', '-']

/-- `rstripSet` is `List.rdropWhile`: a symbol with no character in the set keeps its last one, so
    nothing goes -/
theorem rstripSet_id (sym : List Char) (h : ∀ c ∈ sym, c ∉ stripSet) :
    rstripSet stripSet sym = sym :=
  List.rdropWhile_eq_self_iff.mpr fun hl => by simpa using h _ (List.getLast_mem hl)

theorem resolveSymbol_ion (sym : List Char) (q : Int) (hq : q ≠ 0) :
    resolveSymbol sym (some q)
      = rstripSet stripSet sym ++ (Nat.toDigits 10 q.natAbs).reverse ++ [if q < 0 then '-' else '+'] := by
  simp [resolveSymbol, hq, fmtPlusI, stripSet, List.append_assoc]

theorem resolveSymbol_neutral (sym : List Char) (h : ∀ c ∈ sym, c ∉ stripSet) :
    resolveSymbol sym (some 0) = sym := by
  simpa [resolveSymbol, stripSet] using rstripSet_id sym h

end PtModel.Xray
