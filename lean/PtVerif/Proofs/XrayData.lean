import PtVerif.Proofs.XrayReal
import PtVerif.Generated.F0Table

/-! Kernel-checked facts about the regenerated f0 table (C05): every coefficient set that names
an atom or ion has Σa + c within 0.05 of its electron count Z − q. -/
namespace PtModel.Xray

/-- `Σ aᵢ + c` of a generated row, in units of `1/f0Scale` -/
def rowSum (r : PtGen.F0Row) : Int := r.a.sum + r.c

/-- five `a`, five `b`; if the row names an atom or ion: `|Σa + c − (Z − q)| ≤ 1/20` -/
def rowOk (r : PtGen.F0Row) : Bool :=
  r.a.length == 5 && r.b.length == 5 &&
  (!r.named || decide ((rowSum r - ((r.z : Int) - r.q) * (PtGen.f0Scale : Int)).natAbs * 20 ≤ PtGen.f0Scale))

theorem f0Rows_ok : PtGen.f0Rows.all rowOk = true := by decide +kernel

theorem f0Scale_pos : 0 < PtGen.f0Scale := by decide +kernel

theorem sumA_rowCoeffs (S : ℕ) (a b : List Int) (c : Int) (h : a.length = b.length) :
    sumA (rowCoeffs (α := ℝ) S a b c).1 = ((a.sum : Int) : ℝ) / (S : ℝ) := by
  rw [rowCoeffs, sumA, List.map_map, Int.cast_list_sum, div_eq_mul_inv, ← List.sum_map_mul_right]
  -- the first components of the zipped pairs are the list `a`
  conv_rhs => rw [← List.map_fst_zip (l₂ := b) h.le, List.map_map]
  simp only [Function.comp_def, div_eq_mul_inv]

/-- an integer ratio `A/S` lies within `1/20` of the integer `Z`: decided on the integers -/
theorem abs_div_sub_le (A Z : ℤ) (S : ℕ) (hS : 0 < S) (h : (A - Z * (S : ℤ)).natAbs * 20 ≤ S) :
    |(A : ℝ) / (S : ℝ) - (Z : ℝ)| ≤ 1 / 20 := by
  have hS' : (0 : ℝ) < (S : ℝ) := by exact_mod_cast hS
  have e : (A : ℝ) / (S : ℝ) - (Z : ℝ) = ((A - Z * (S : ℤ) : ℤ) : ℝ) / (S : ℝ) := by
    rw [Int.cast_sub, Int.cast_mul, Int.cast_natCast, sub_div, mul_div_cancel_right₀ _ hS'.ne']
  rw [e, abs_div, abs_of_pos hS', div_le_div_iff₀ hS' (by norm_num), ← Int.cast_abs,
    Int.abs_eq_natAbs, one_mul]
  exact_mod_cast h

end PtModel.Xray
