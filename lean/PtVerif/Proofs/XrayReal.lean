import PtVerif.Proofs.Xray
import Mathlib.Analysis.SpecialFunctions.Trigonometric.Basic
import Mathlib.Analysis.SpecialFunctions.Log.Basic

/-! The x-ray model at `ℝ`: mirror reflectivity lies in [0, 1]; f0 is continuous at Q = 0
with limit Σa + c and NaN beyond the fitted range (C05). -/
namespace PtModel.Xray

/-- the real-number interpretation of the non-algebraic operations -/
noncomputable def realTransc : Transc ℝ :=
  ⟨Real.exp, Real.log, Real.sqrt, Real.cos, Real.pi, fun x => |x|⟩

attribute [local instance] realTransc

theorem sinT_eq (x : ℝ) : sinT x = Real.sin x := by
  show Real.cos (x - Real.pi / ((2 : ℕ) : ℝ)) = Real.sin x
  rw [Nat.cast_ofNat, Real.cos_sub_pi_div_two]

/-! ## |·|² of complex products, quotients and exponentials (pairs of reals) -/

def cabs2 (z : ℝ × ℝ) : ℝ := z.1 * z.1 + z.2 * z.2

theorem cabs2_nonneg (z : ℝ × ℝ) : 0 ≤ cabs2 z :=
  add_nonneg (mul_self_nonneg _) (mul_self_nonneg _)

theorem cabs2_cmul (x y : ℝ × ℝ) : cabs2 (cmul x y) = cabs2 x * cabs2 y := by
  unfold cabs2 cmul; ring

/-- no side condition: for `y = 0` both sides are `0` (division by zero) -/
theorem cabs2_cdiv (x y : ℝ × ℝ) : cabs2 (cdiv x y) = cabs2 x / cabs2 y := by
  have h : (x.1 * y.1 + x.2 * y.2) * (x.1 * y.1 + x.2 * y.2)
      + (x.2 * y.1 - x.1 * y.2) * (x.2 * y.1 - x.1 * y.2) = cabs2 x * cabs2 y := by
    unfold cabs2; ring
  show _ / cabs2 y * (_ / cabs2 y) + _ / cabs2 y * (_ / cabs2 y) = _
  rw [div_mul_div_comm, div_mul_div_comm, ← add_div, h, mul_div_assoc, div_self_mul_self',
    div_eq_mul_inv]

theorem cabs2_cexp (w : ℝ × ℝ) : cabs2 (cexp w) = Real.exp w.1 ^ 2 := by
  show Real.exp w.1 * Real.cos w.2 * (Real.exp w.1 * Real.cos w.2)
      + Real.exp w.1 * sinT w.2 * (Real.exp w.1 * sinT w.2) = _
  rw [sinT_eq]
  linear_combination Real.exp w.1 ^ 2 * Real.cos_sq_add_sin_sq w.2

/-- the Fresnel amplitude `(k − κ)/(k + κ)`, `k` real, `κ = a + ib`, has modulus ≤ 1 when
    `k` and `re κ` have the same sign: `|k + κ|² − |k − κ|² = 4ka` -/
theorem cabs2_fresnel_le_one (k a b : ℝ) (h : 0 ≤ k * a) :
    cabs2 (cdiv (k - a, 0 - b) (k + a, b)) ≤ 1 := by
  rw [cabs2_cdiv]
  refine div_le_one_of_le₀ ?_ (cabs2_nonneg _)
  have : cabs2 (k + a, b) - cabs2 (k - a, 0 - b) = 4 * (k * a) := by unfold cabs2; ring
  linarith

/-- a Fresnel reflectivity times a Névot–Croce factor lies in [0, 1] -/
theorem fresnel_damped_bounds (k a b σ : ℝ) (hk : 0 ≤ k) (ha : 0 ≤ a) :
    0 ≤ cabs2 (cdiv (k - a, 0 - b) (k + a, b)) * Real.exp (-(4 * k * a * σ ^ 2)) ∧
    cabs2 (cdiv (k - a, 0 - b) (k + a, b)) * Real.exp (-(4 * k * a * σ ^ 2)) ≤ 1 :=
  ⟨mul_nonneg (cabs2_nonneg _) (Real.exp_pos _).le,
    mul_le_one₀ (cabs2_fresnel_le_one k a b (mul_nonneg hk ha)) (Real.exp_pos _).le
      (Real.exp_le_one_iff.2 (neg_nonpos.2 (by positivity)))⟩

/-- `mirror_reflectivity` in closed form: the Fresnel reflectivity `|(ki − kf)/(ki + kf)|²` of the
    sharp interface, `ki = k0 sin θ`, `kf = k0 √(n² − cos²θ)`, times the Névot–Croce roughness
    factor `exp(−4 ki re(kf) σ²)` -/
theorem mirrorR_eq (csqrt : ℝ × ℝ → ℝ × ℝ) (lam ang rough : ℝ) (n : ℝ × ℝ) :
    let k0 := 2 * Real.pi / lam
    let θ := ang * (Real.pi / 180)
    let ki := k0 * Real.sin θ
    let κ := csqrt ((cmul n n).1 - Real.cos θ * Real.cos θ, (cmul n n).2)
    mirrorR csqrt lam ang rough n
      = cabs2 (cdiv (ki - k0 * κ.1, 0 - k0 * κ.2) (ki + k0 * κ.1, k0 * κ.2))
          * Real.exp (-(4 * ki * (k0 * κ.1) * rough ^ 2)) := by
  intro k0 θ ki κ
  -- `mirrorR` unfolds to `√|r|² · √|r|²` with `r = q·e^w`
  have key : mirrorR csqrt lam ang rough n
      = cabs2 (cmul (cdiv (k0 * sinT θ - k0 * κ.1, 0 - k0 * κ.2) (k0 * sinT θ + k0 * κ.1, k0 * κ.2))
          (cexp ((0 - 2) * (k0 * sinT θ) * (k0 * κ.1) * (rough * rough),
            (0 - 2) * (k0 * sinT θ) * (k0 * κ.2) * (rough * rough)))) :=
    Real.mul_self_sqrt (cabs2_nonneg _)
  rw [key, cabs2_cmul, cabs2_cexp, ← Real.exp_nat_mul, sinT_eq]
  congr 2
  ring

theorem mirrorR_bounds (csqrt : ℝ × ℝ → ℝ × ℝ) (hc : ∀ z, 0 ≤ (csqrt z).1)
    (lam ang rough : ℝ) (n : ℝ × ℝ) (hl : 0 < lam) (h0 : 0 ≤ ang) (h1 : ang ≤ 180) :
    0 ≤ mirrorR csqrt lam ang rough n ∧ mirrorR csqrt lam ang rough n ≤ 1 := by
  have hk0 : 0 ≤ 2 * Real.pi / lam := by positivity
  have hθ : ang * (Real.pi / 180) ≤ Real.pi :=
    calc ang * (Real.pi / 180) ≤ 180 * (Real.pi / 180) :=
          mul_le_mul_of_nonneg_right h1 (by positivity)
      _ = Real.pi := mul_div_cancel₀ _ (by norm_num)
  rw [mirrorR_eq]
  exact fresnel_damped_bounds _ _ _ _
    (mul_nonneg hk0 (Real.sin_nonneg_of_nonneg_of_le_pi (by positivity) hθ))
    (mul_nonneg hk0 (hc _))

def sumA (ab : List (ℝ × ℝ)) : ℝ := (ab.map Prod.fst).sum

theorem f0sum_zero (ab : List (ℝ × ℝ)) : f0sum ab 0 = sumA ab := by
  induction ab with
  | nil => simp [f0sum, sumA]
  | cons p r ih =>
    obtain ⟨a, b⟩ := p
    simp only [f0sum, ih, sumA, List.map_cons, List.sum_cons]
    show a * Real.exp (-(b * 0)) + _ = _
    simp

theorem continuous_f0sum (ab : List (ℝ × ℝ)) : Continuous (fun s2 : ℝ => f0sum ab s2) := by
  induction ab with
  | nil => exact continuous_const
  | cons p r ih =>
    obtain ⟨a, b⟩ := p
    apply Continuous.add _ ih
    apply Continuous.mul continuous_const
    exact Real.continuous_exp.comp ((continuous_const.mul continuous_id).neg)

/-- the value `f0` returns inside the fitted range, as a function of Q -/
noncomputable def f0val (ab : List (ℝ × ℝ)) (c : ℝ) (Q : ℝ) : ℝ :=
  f0sum ab ((Q / (((4 : ℕ) : ℝ) * Transc.pi)) * (Q / (((4 : ℕ) : ℝ) * Transc.pi))) + c

theorem f0_eq (ab : List (ℝ × ℝ)) (c Q : ℝ) :
    f0 ab c Q = if 6 < Q / (4 * Real.pi) then none else some (f0val ab c Q) := by
  have h4 : ((4 : ℕ) : ℝ) * Transc.pi = 4 * Real.pi := congrArg (· * Real.pi) Nat.cast_ofNat
  rw [f0, atstol, f0val, h4, Nat.cast_ofNat]

theorem continuous_f0val (ab : List (ℝ × ℝ)) (c : ℝ) : Continuous (f0val ab c) := by
  apply Continuous.add _ continuous_const
  apply (continuous_f0sum ab).comp
  exact (continuous_id.div_const _).mul (continuous_id.div_const _)

end PtModel.Xray
