import PtVerif.Proofs.FormulaRefine
/-!
# C02 — composition arithmetic: atoms, mass, charge and mass fractions are additive

Model: `PtVerif.Model.Formula` / `FormulaOps` (`_count_atoms`, `Formula.mass/charge/
mass_fraction`, `__add__`, `__iadd__`, `__rmul__`, `formula()` dispatch) – tied to
formulas.py by the correspondence in `harness/ptv/props/C02.py`.

All statements hold for every nesting shape and every commutative ring / field of
counts (so in particular for ℚ and ℝ).  Floating-point rounding of the sums is not
covered (compared at 1e-9 by the correspondence).
-/
namespace PtVerif.C02
open PtModel

variable {α : Type}

/-- atom counts of any nested `(count, fragment)` structure are the count-weighted sum of
    the atom counts of its parts (`Items.cnt` is that sum, written from the statement) -/
theorem atoms_are_weighted_sum [CommSemiring α] (s : Items α) (b : Atom) :
    lookupD s.atoms b = s.cnt b := Items.lookupD_atoms s b

/-- the atoms dict never lists an atom twice -/
theorem atoms_keys_distinct [CommSemiring α] (s : Items α) : KeysNodup s.atoms :=
  s.keysNodup_atoms

/-- `f + g` (and `f += g`): counts add -/
theorem add_counts [CommSemiring α] (s t : Items α) (b : Atom) :
    lookupD (addS s t).atoms b = lookupD s.atoms b + lookupD t.atoms b := by
  simp only [atoms_are_weighted_sum, cnt_addS]

/-- `n * f`: counts scale, for every multiplier including 0, 1 and non-integers -/
theorem mul_counts [CommSemiring α] [DecidableEq α] (n : α) (s : Items α) (b : Atom) :
    lookupD (rmulS n s).atoms b = lookupD s.atoms b * n := by
  simp only [atoms_are_weighted_sum, cnt_rmulS]

/-- mass is the sum over the parts of count × atomic mass -/
theorem mass_is_sum [CommRing α] (am : Atom → α) (s : Items α) :
    massOf am s.atoms = s.flatMass am := Items.massOf_atoms am s

theorem mass_add [CommRing α] (am : Atom → α) (s t : Items α) :
    massOf am (addS s t).atoms = massOf am s.atoms + massOf am t.atoms := by
  simp only [mass_is_sum]; exact Items.flatMass_append am s t

theorem mass_mul [CommRing α] [DecidableEq α] (am : Atom → α) (n : α) (s : Items α) :
    massOf am (rmulS n s).atoms = massOf am s.atoms * n := by
  simp only [mass_is_sum]; exact flatMass_rmulS am n s

/-- an ion weighs its atom less `charge` electron masses -/
theorem ion_mass [CommRing α] (m : Nat → Nat → α) (me : α) (z a : Nat) (q : Int) :
    atomMass m me ⟨z, a, q⟩ = m z a - me * (q : α) := by
  unfold atomMass
  by_cases h : q = 0 <;> simp [h]

/-- charge is the sum over the parts of count × ion charge -/
theorem charge_is_sum [CommRing α] (s : Items α) :
    chargeOf s.atoms = s.flatMass (fun a => (a.q : α)) := by
  rw [chargeOf_eq_wsum, ← massOf_eq_wsum]; exact Items.massOf_atoms _ s

/-- each mass fraction is count × mass / total mass … -/
theorem mass_fraction_entry [Field α] (am : Atom → α) (t : List (Atom × α)) :
    massFraction am t = t.map fun e => (e.1, e.2 * am e.1 / massOf am t) := rfl

/-- … and they sum to one (whenever the total mass is not zero) -/
theorem mass_fraction_sum_one [Field α] (am : Atom → α) (s : Items α) (h : massOf am s.atoms ≠ 0) :
    ((massFraction am s.atoms).map Prod.snd).sum = 1 := massFraction_sum am s.atoms h

section
variable [Add α] [Mul α] [OfNat α 0] [OfNat α 1] [BEq α]

/-- operations that return a new formula (`formula(…)`, `+`, `n*`, `.hill`) leave every
    existing formula object unchanged -/
theorem new_formula_ops_leave_operands (sym : Nat → Nat → Nat) (h h' : Heap α) (op : Op α)
    (hop : Heap.isIadd op = false) (hs : h.step sym op = some h')
    (i : Nat) (hi : i < h.objs.length) : h'.objs[i]? = h.objs[i]? := by
  -- apart from `+=` and aliasing, a statement evaluates its operands and allocates the result
  have alloc : ∀ r s, some (h.alloc r s) = some h' → h'.objs[i]? = h.objs[i]? := fun r s e =>
    Option.some.inj e ▸ Heap.alloc_objs_get h r s i hi
  cases op with
  | new r s => exact alloc _ _ hs
  | dict r t => exact alloc _ _ hs
  | copy r r2 =>
    obtain ⟨s, -, hs⟩ := Option.bind_eq_some_iff.mp hs
    exact alloc _ _ hs
  | same r r2 =>
    obtain ⟨j, -, hs⟩ := Option.bind_eq_some_iff.mp hs
    rw [← Option.some.inj hs]
  | add r r1 r2 =>
    obtain ⟨s1, -, hs⟩ := Option.bind_eq_some_iff.mp hs
    obtain ⟨s2, -, hs⟩ := Option.bind_eq_some_iff.mp hs
    exact alloc _ _ hs
  | mul r n r1 =>
    obtain ⟨s, -, hs⟩ := Option.bind_eq_some_iff.mp hs
    exact alloc _ _ hs
  | iadd r1 r2 => cases hop
  | hill r r1 =>
    obtain ⟨s, -, hs⟩ := Option.bind_eq_some_iff.mp hs
    exact alloc _ _ hs

/-- `f += g` changes only the object `f` names -/
theorem iadd_changes_only_its_target (sym : Nat → Nat → Nat) (h h' : Heap α) (r1 r2 : Nat)
    (hs : h.step sym (.iadd r1 r2) = some h') (i : Nat) (hne : h.reg r1 ≠ some i) :
    h'.objs[i]? = h.objs[i]? := by
  obtain ⟨j, hj, hs⟩ := Option.bind_eq_some_iff.mp hs
  obtain ⟨s1, -, hs⟩ := Option.bind_eq_some_iff.mp hs
  obtain ⟨s2, -, hs⟩ := Option.bind_eq_some_iff.mp hs
  rw [← Option.some.inj hs]
  exact List.getElem?_set_ne fun e : j = i => hne (e ▸ hj)
end

/-- **all sequences of operations**: for every program of constructions (`formula(seq)`,
    `formula(dict)`, `formula(f)`), aliasing, `+`, `n*`, `+=` and `.hill`, reading the atom counts
    of the real structures equals running the specification in which each formula *is* its count
    function (counts add under `+`/`+=`, scale under `n*`, are kept by copy/Hill) – the
    refinement of `Heap.step` to `AHeap.step`, lifted to every operation list by induction -/
theorem programs_refine_count_spec [CommSemiring α] [DecidableEq α] (sym : Nat → Nat → Nat)
    (ops : List (Op α)) (hw : ∀ op ∈ ops, op.wf) (h : Heap α) :
    (h.run sym ops).map Heap.abs = h.abs.run ops := by
  induction ops generalizing h with
  | nil => rfl
  | cons op ops ih =>
    rw [Heap.run_cons, AHeap.run_cons, ← Heap.step_refines sym h op (hw op List.mem_cons_self), Option.map_bind,
      Option.bind_map]
    exact congrArg _ (funext fun h' => ih (fun o ho => hw o (List.mem_cons_of_mem _ ho)) h')

/-! non-vacuity: a program with aliasing and `+=` runs, and its spec run agrees -/
example : ((Heap.empty : Heap Int).run (fun _ _ => 0)
    [.new 0 (.cons 2 (.atom ⟨1,0,0⟩) .nil), .same 1 0, .new 2 (.cons 1 (.atom ⟨8,0,0⟩) .nil),
     .iadd 1 2, .mul 3 3 0]).isSome = true := by decide

/-! non-vacuity: a nested structure with a repeated atom (H: 2·3 inside the group, 1 outside) -/
example : lookupD (Items.cons (2 : Int) (.group (.cons 3 (.atom ⟨1, 0, 0⟩) (.cons 1 (.atom ⟨8, 0, 0⟩) .nil)))
    (.cons 1 (.atom ⟨1, 0, 0⟩) .nil)).atoms ⟨1, 0, 0⟩ = 7 := by decide

end PtVerif.C02
