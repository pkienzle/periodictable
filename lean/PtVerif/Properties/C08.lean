import PtVerif.Proofs.Core
import PtVerif.Proofs.ElementTable
import PtVerif.Generated.ElementBase
/-!
# C08 — atoms are unique per table and every lookup route returns the same object

Model: `PtVerif.Model.Core` (heap of objects numbered by allocation; `PeriodicTable._element`,
the table's atom attributes, `Element._isotopes`, `IonSet.ionset` as dictionaries; every method
of core.py 210-599 written the way it is written) – tied to core.py by the correspondence in
`harness/ptv/props/C08.py`; `base` is regenerated from `element_base` on every run.

`Reach s` = the states reachable from the empty interpreter by any finite sequence of operations
(any number of tables, any interleaving).  Not covered: CPython itself (object identity, dict,
`__getattr__`, pickle/copy calling `__reduce__`) – modelled, checked by the correspondence.
-/
namespace PtVerif.C08
open PtCore PtCheck

/-- `element_base` as read from core.py by the translator -/
def base : Base := baseOfRaw PtGen.elementBase

/-! ## facts about the generated table (re-checked against the source on every run) -/

theorem base_Z_distinct : (base.map (·.z)).Nodup := by
  rw [base, baseOfRaw, List.map_map]
  exact PtLoad.allZ_nodup

theorem base_symbols_distinct : (base.map (·.symbol)).Nodup :=
  -- the kernel compares numbers far more cheaply than strings: the bytes of a symbol, read as a number
  nodup_of_map strKey (nodup_of_distinct (by decide +kernel))

/-- no symbol is `D` or `T`, the aliases of H[2] and H[3] -/
theorem base_DT_free : DTFree base := by
  unfold DTFree
  decide +kernel

/-- names are distinct and none is `deuterium` / `tritium` -/
theorem base_names_distinct : ((base.map (·.name)) ++ ["deuterium", "tritium"]).Nodup :=
  nodup_of_map strKey (nodup_of_distinct (by decide +kernel))

/-- there is a hydrogen row, so `PeriodicTable.__init__` can create D and T -/
theorem base_has_H : (base.find? (·.symbol = "H")).isSome = true := by decide +kernel

/-! ## the invariant holds in every reachable state -/

/-- states reachable from a fresh interpreter by any operation sequence -/
def Reach (s : State) : Prop := ∃ ops : List Op, s = run base init ops

theorem inv_init : Inv base init := PtCore.inv_init base

theorem inv_step (s : State) (h : Inv base s) (op : Op) : Inv base (step base s op).1 :=
  (PtCore.inv_step base_Z_distinct h op).1

/-- lifted to all operation lists -/
theorem inv_reach {s : State} (h : Reach s) : Inv base s := by
  obtain ⟨ops, rfl⟩ := h
  exact run_induction (fun s op hs => inv_step s hs op) ops inv_init

/-- objects are never altered or dropped by later operations -/
theorem objects_persist (s : State) (h : Inv base s) (op : Op) (i : Nat) (o : Obj)
    (ho : s.obj i = some o) : (step base s op).1.obj i = some o :=
  (PtCore.inv_step base_Z_distinct h op).2 i o ho

/-! ## uniqueness and agreement of routes -/

/-- within one table there is one object per (Z, A, charge): two objects that report the same
    table, number, isotope number and charge are the same object -/
theorem atoms_unique {s : State} (h : Reach s) {i j : Nat} {k : Key}
    (hi : s.keyOf i = some k) (hj : s.keyOf j = some k) : i = j :=
  unique (inv_reach h) hi hj

/-- any two operations – whatever the routes – that return atoms reporting the same key return
    the same object, no matter what happened in between -/
theorem routes_agree {s : State} (h : Reach s) (op1 : Op) (between : List Op) (op2 : Op) {i j : Nat}
    (h1 : (step base s op1).2 = .obj i)
    (h2 : (step base (run base (step base s op1).1 between) op2).2 = .obj j)
    {k : Key}
    (hi : (step base (run base (step base s op1).1 between) op2).1.keyOf i = some k)
    (hj : (step base (run base (step base s op1).1 between) op2).1.keyOf j = some k) : i = j := by
  -- the state in which the keys are read is reachable too
  obtain ⟨ops, rfl⟩ := h
  refine atoms_unique ⟨ops ++ op1 :: (between ++ [op2]), ?_⟩ hi hj
  rw [run_append, run_cons, run_append]
  rfl

/-! ## the object matches the key used (`key_matches_*`); bad keys raise (`*_raises`) -/

/-- `table[Z]` -/
theorem key_matches_number {s : State} (h : Reach s) {t : String} {z i : Nat}
    (hr : (step base s (.getZ t z)).2 = .obj i) : s.keyOf i = some ⟨t, z, none, none⟩ :=
  keyOf_element ((inv_reach h).elemSound _ _ _ (getZ_obj_iff.mp hr))

/-- `table.symbol(x)`, `getattr(table, x)`: an atom of this table whose symbol is x -/
theorem key_matches_symbol {s : State} (h : Reach s) {t x : String} {i : Nat}
    (hr : (step base s (.symbol t x)).2 = .obj i) :
    ∃ nm k, s.symName base i = some (x, nm) ∧ s.keyOf i = some k ∧ k.table = t ∧ k.q = none :=
  symName_of_attr (inv_reach h) (symbol_obj_iff.mp hr)

theorem key_matches_attr {s : State} (h : Reach s) {t x : String} {i : Nat}
    (hr : (step base s (.attr t x)).2 = .obj i) :
    ∃ nm k, s.symName base i = some (x, nm) ∧ s.keyOf i = some k ∧ k.table = t ∧ k.q = none :=
  symName_of_attr (inv_reach h) (attr_obj_iff.mp hr)

/-- a module attribute (`periodictable.Fe`, `.iron`, `.D`, `.deuterium`; the namespace filled by
    `define_elements`) holds an element whose symbol or name is the attribute name, or – under one of
    the names `D`, `deuterium`, `T`, `tritium` – an isotope object (which isotope is not said) -/
theorem key_matches_module_attr {s : State} (h : Reach s) {x : String} {i : Nat}
    (hr : (step base s (.modAttr x)).2 = .obj i) : NsGood base s x i := by
  obtain ⟨ops, rfl⟩ := h
  exact (nsOK_tablesOK_run base_Z_distinct base_symbols_distinct base_DT_free ops).1 x i
    (modAttr_obj_iff.mp hr)

/-- `table.name(x)`: an atom of this table whose name is x -/
theorem key_matches_name {s : State} (h : Reach s) {t x : String} {i : Nat}
    (hr : (step base s (.name t x)).2 = .obj i) :
    ∃ sym k, s.symName base i = some (sym, x) ∧ s.keyOf i = some k ∧ k.table = t ∧ k.q = none := by
  have hs := inv_reach h
  rcases name_obj_cases hs hr with ⟨z, r, hg, hrow, hn⟩ | ⟨k, sym, hk, ha, hal⟩
  · have ho := hs.elemSound _ _ _ hg
    exact ⟨r.symbol, _, by rw [symName_element ho, hrow, ← hn]; rfl, keyOf_element ho, rfl, rfl⟩
  · obtain ⟨hh, a, z, _, ho, hho, _⟩ := alias_of_attr hs base_DT_free hk ha
    exact ⟨sym, _, by simp [State.symName, ho, hal], keyOf_isotope ho hho, rfl, rfl⟩

/-- `table.isotope('A-Sym')`: with `(sym, n)` the symbol and number parsed from the string
    (`n = 0`: no number given, `n < 0`: malformed) a successful lookup returns an atom of this
    table; for `n = 0` its symbol is `sym`; otherwise `n > 0`, its isotope number is `n` and it
    is an isotope of the element with symbol `sym` -/
theorem key_matches_isotope_string {s : State} (h : Reach s) {t x : String} {i : Nat}
    (hr : (step base s (.isotope t x)).2 = .obj i) :
    ∃ k, s.keyOf i = some k ∧ k.table = t ∧ k.q = none ∧
      ((parseIsotope x).2 = 0 → ∃ nm, s.symName base i = some ((parseIsotope x).1, nm)) ∧
      ((parseIsotope x).2 ≠ 0 → 0 < (parseIsotope x).2 ∧ k.a = some (parseIsotope x).2.toNat ∧
        ∃ e nm, s.obj i = some (.isotope e (parseIsotope x).2.toNat) ∧
          s.symName base e = some ((parseIsotope x).1, nm)) := by
  have hs := inv_reach h
  simp only [step] at hr
  generalize parseIsotope x = p at hr ⊢
  obtain ⟨sym, n⟩ := p
  split at hr
  · next i0 ha =>
    -- the table has an attribute `sym`; it holds the atom i0
    obtain ⟨nm0, k0, hsn, hk0, hkt, hkq⟩ := symName_of_attr hs ha
    split at hr
    · next ho =>
      -- i0 is an element: itself for n = 0, a raise for n < 0, its cached isotope n for n > 0
      split at hr
      · next hn0 =>
          cases hr
          exact ⟨k0, hk0, hkt, hkq, fun _ => ⟨nm0, hsn⟩, fun hne => absurd hn0 hne⟩
      · next hn0 =>
        split at hr
        · cases hr
        · split at hr
          · next j hi =>
            cases hr
            cases (keyOf_element ho).symm.trans hk0
            have hoj := hs.isoSound _ _ _ hi
            exact ⟨_, keyOf_isotope hoj ho, hkt, rfl, fun h0 => absurd h0 hn0,
              fun _ => ⟨by omega, rfl, i0, nm0, hoj, hsn⟩⟩
          · cases hr
    · -- i0 is an isotope (D or T): accepted only without a number
      split at hr
      · next hn0 =>
          cases hr
          exact ⟨k0, hk0, hkt, hkq, fun _ => ⟨nm0, hsn⟩, fun hne => absurd hn0 hne⟩
      · cases hr
    · cases hr
  · cases hr

/-- `element[A]` -/
theorem key_matches_isotope {s : State} (h : Reach s) {o a i : Nat}
    (hr : (step base s (.iso o a)).2 = .obj i) :
    ∃ t z, s.obj o = some (.element t z) ∧ s.keyOf i = some ⟨t, z, some a, none⟩ := by
  simp only [step] at hr
  split at hr
  · next t z ho =>
    simp only [State.isoGet] at hr
    split at hr
    · next hi =>
        cases hr
        exact ⟨t, z, ho, keyOf_isotope ((inv_reach h).isoSound _ _ _ hi) ho⟩
    · cases hr
  · cases hr
  · cases hr

/-- `atom.add_isotope(A)` (on an element, or delegated by an isotope / ion) -/
theorem key_matches_add_isotope {s : State} (h : Reach s) {o a i : Nat}
    (hr : (step base s (.addIsotope o a)).2 = .obj i) :
    ∃ e t z, s.elemOf o = some (e, t, z) ∧
      (step base s (.addIsotope o a)).1.keyOf i = some ⟨t, z, some a, none⟩ := by
  simp only [step] at hr ⊢
  split at hr
  · next e t z hel =>
    have he := elemOf_obj hel
    obtain ⟨hfill, hobj⟩ := addIsotope_spec (inv_reach h) he a
    cases hr
    exact ⟨e, t, z, hel, keyOf_isotope hobj (hfill.ext _ _ he)⟩
  · cases hr

/-- `atom.ion[q]`: the owner's key with charge q -/
theorem key_matches_ion {s : State} (h : Reach s) {o i : Nat} {q : Int}
    (hr : (step base s (.ion o q)).2 = .obj i) :
    ∃ w k, s.ionOwner o = some w ∧ s.keyOf w = some k ∧ k.q = none ∧
      (step base s (.ion o q)).1.keyOf i = some ⟨k.table, k.z, k.a, some q⟩ := by
  have hs := inv_reach h
  simp only [step] at hr ⊢
  split at hr
  · next w hw =>
    have hown := ionOwner_atom hs hw
    obtain ⟨t, z, a, hk, _⟩ := owner?_complete hs hown
    exact ⟨w, _, hw, hk, rfl, ionGet_key hs hown hk (Prod.ext rfl hr)⟩
  · cases hr

/-- an atomic number that is not in `element_base` raises `KeyError` -/
theorem invalid_number_raises {s : State} (h : Reach s) (t : String) {z : Nat}
    (hz : base.row? z = none) : (step base s (.getZ t z)).2 = .err .key := by
  have hs := inv_reach h
  show s.getZ t z = .err .key
  unfold State.getZ
  split
  · next he =>
    have := (hs.elemBase _ _ _ (hs.elemSound _ _ _ he)).2
    rw [hz] at this
    cases this
  · rfl

/-- a charge that is not in the element's `ions` raises `ValueError` (also through an isotope
    and through another ion) and creates nothing -/
theorem invalid_charge_raises {s : State} (h : Reach s) {o w e : Nat} {q : Int} {t : String} {z : Nat}
    {r : BaseRow} (hw : s.ionOwner o = some w) (hel : s.elemOf w = some (e, t, z))
    (hrow : base.row? z = some r) (hq : q ∉ r.ions) :
    step base s (.ion o q) = (s, .err .value) := by
  have hs := inv_reach h
  simp only [step, hw, State.ionGet]
  cases hg : (s.ionsOf w).get? q with
  | some i =>
    -- only valid ions are ever cached
    obtain ⟨_, _, e1, t1, z1, r1, h3, h4, h5⟩ := hs.ionUniq _ _ _ (hs.ionSound _ _ _ hg)
    cases hel.symm.trans h3
    cases hrow.symm.trans h4
    exact absurd h5 hq
  | none => simp [hel, hrow, hq]

/-- an isotope number that the element does not have raises `KeyError` -/
theorem invalid_isotope_raises (s : State) {o a : Nat} {t : String} {z : Nat}
    (ho : s.obj o = some (.element t z)) (ha : (s.isosOf o).get? a = none) :
    step base s (.iso o a) = (s, .err .key) := by
  simp [step, ho, State.isoGet, ha]

/-- a string whose number part is not an integer, is 0, or that has more than one dash raises -/
theorem malformed_isotope_string_raises (s : State) (t x : String) (hn : (parseIsotope x).2 < 0) :
    (step base s (.isotope t x)).2 = .err .value := by
  simp only [step]
  generalize parseIsotope x = p at hn ⊢
  obtain ⟨sym, n⟩ := p
  have h0 : n ≠ 0 := by omega
  split
  · split
    · simp [h0, hn]
    · simp [h0]
    · rfl
  · rfl

/-- a symbol that is neither in `element_base` nor `D` / `T` raises `ValueError` -/
theorem unknown_symbol_raises {s : State} (h : Reach s) (t : String) {x : String}
    (hx : x ∉ base.map (·.symbol)) (hD : x ≠ "D") (hT : x ≠ "T") :
    (step base s (.symbol t x)).2 = .err .value := by
  simp only [step]
  split
  · next i ha =>
    have hs := inv_reach h
    rcases hs.attrSound t x i ha with ⟨z, r, _, hr, hsym⟩ | ⟨_, _, _, _, _, _, hal⟩
    · exact absurd (List.mem_map.mpr ⟨r, row?_mem hr, hsym⟩) hx
    · rcases hs.aliasVals i _ hal with hp | hp
      · exact absurd (congrArg Prod.fst hp) hD
      · exact absurd (congrArg Prod.fst hp) hT
  · rfl

/-! ## every route to an element / isotope ends at the same object as plain subscripting -/

/-- a symbol of `element_base` contains no dash: as an 'A-Sym' string it means "no isotope" -/
theorem base_symbols_parse : ∀ r ∈ base, parseIsotope r.symbol = (r.symbol, 0) := fun r hr =>
  parseIsotope_no_dash ((show ∀ r ∈ base, '-' ∉ r.symbol.toList by decide +kernel) r hr)

/-- `table.symbol(sym)`, `getattr(table, sym)`, `table.isotope(sym)` and `table.name(name)` of a
    row of `element_base` return the element object recorded with that row's atomic number … -/
theorem element_routes_number {s : State} (h : Reach s) (t : String) {r : BaseRow} (hr : r ∈ base) {i : Nat} :
    ((step base s (.symbol t r.symbol)).2 = .obj i → s.obj i = some (.element t r.z)) ∧
    ((step base s (.attr t r.symbol)).2 = .obj i → s.obj i = some (.element t r.z)) ∧
    ((step base s (.isotope t r.symbol)).2 = .obj i → s.obj i = some (.element t r.z)) ∧
    ((step base s (.name t r.name)).2 = .obj i → s.obj i = some (.element t r.z)) := by
  have hs := inv_reach h
  have attr {j} (ha : s.attrs.get? (t, r.symbol) = some j) : s.obj j = some (.element t r.z) :=
    elem_of_attr hs base_symbols_distinct base_DT_free hr ha
  refine ⟨fun hres => attr (symbol_obj_iff.mp hres), fun hres => attr (attr_obj_iff.mp hres), fun hres => ?_,
    elem_of_name hs base_names_distinct hr⟩
  simp only [step, base_symbols_parse r hr] at hres
  split at hres
  · next j ha =>
    simp only [attr ha] at hres
    cases hres
    exact attr ha
  · cases hres

/-- … which is the object `table[Z]` returns: all element routes give one object -/
theorem element_routes_same_object {s : State} (h : Reach s) (t : String) {r : BaseRow} (hr : r ∈ base)
    {i j : Nat} (hz : (step base s (.getZ t r.z)).2 = .obj j)
    (hroute : (step base s (.symbol t r.symbol)).2 = .obj i ∨ (step base s (.attr t r.symbol)).2 = .obj i ∨
      (step base s (.isotope t r.symbol)).2 = .obj i ∨ (step base s (.name t r.name)).2 = .obj i) :
    i = j := by
  have hs := inv_reach h
  obtain ⟨h1, h2, h3, h4⟩ := element_routes_number (i := i) h t hr
  exact unique_element hs (hroute.elim h1 (·.elim h2 (·.elim h3 h4)))
    (hs.elemSound _ _ _ (getZ_obj_iff.mp hz))

/-- `table.isotope('A-Sym')` is `table[Z][A]`: if the string parses to (symbol of row r, A ≠ 0),
    the object it returns is the object `element[A]` returns for the element `table[r.z]` -/
theorem isotope_string_same_object {s : State} (h : Reach s) (t x : String) {r : BaseRow} (hr : r ∈ base)
    (hx : (parseIsotope x).1 = r.symbol) (hn : (parseIsotope x).2 ≠ 0) {e i j : Nat}
    (he : (step base s (.getZ t r.z)).2 = .obj e)
    (hj : (step base s (.iso e (parseIsotope x).2.toNat)).2 = .obj j)
    (hi : (step base s (.isotope t x)).2 = .obj i) : i = j := by
  have hs := inv_reach h
  obtain ⟨k, hk, hkt, _, _, hne⟩ := key_matches_isotope_string h hi
  obtain ⟨_, _, e', nm, hoi, hsym⟩ := hne hn
  obtain ⟨_, t1, z1, hoe'⟩ := hs.isoUniq _ _ _ hoi
  cases (keyOf_isotope hoi hoe').symm.trans hk
  cases hkt
  -- e' is the element of this table whose row has the symbol of r, so its number is that of r
  rw [symName_element hoe'] at hsym
  obtain ⟨r', hrow, hr'⟩ := Option.map_eq_some_iff.mp hsym
  cases inj_of_nodup_map base_symbols_distinct (row?_mem hrow) hr ((congrArg Prod.fst hr').trans hx)
  obtain ⟨t2, z2, hoe, hkj⟩ := key_matches_isotope h hj
  cases hoe.symm.trans (hs.elemSound _ _ _ (getZ_obj_iff.mp he))
  exact unique hs (keyOf_isotope hoi hoe') (row?_z hrow ▸ hkj)

/-! ## valid keys succeed -/

theorem tables_complete {s : State} (h : Reach s) : TablesOK base s := by
  obtain ⟨ops, rfl⟩ := h
  exact (nsOK_tablesOK_run base_Z_distinct base_symbols_distinct base_DT_free ops).2

/-- in every existing table, for every row of `element_base`, lookup by atomic number, by symbol,
    by attribute, by the symbol as 'A-Sym' string and by name all succeed **and return one and the
    same object** -/
theorem element_routes_succeed {s : State} (h : Reach s) {t : String} (ht : t ∈ s.tables) {r : BaseRow}
    (hr : r ∈ base) :
    ∃ i, (step base s (.getZ t r.z)).2 = .obj i ∧ (step base s (.symbol t r.symbol)).2 = .obj i ∧
      (step base s (.attr t r.symbol)).2 = .obj i ∧ (step base s (.isotope t r.symbol)).2 = .obj i ∧
      (step base s (.name t r.name)).2 = .obj i := by
  have hs := inv_reach h
  obtain ⟨i, he, ha⟩ := tables_complete h t ht r hr
  have ho := hs.elemSound _ _ _ he
  refine ⟨i, getZ_obj_iff.mpr he, symbol_obj_iff.mpr ha, attr_obj_iff.mpr ha,
    by simp [step, base_symbols_parse r hr, ha, ho], ?_⟩
  -- by name: the search over the elements by increasing Z finds a row named r.name; it is r
  cases hf : (s.sortedElems t).find? (fun zi => (base.row? zi.1).map (·.name) = some r.name) with
  | none =>
    have := List.find?_eq_none.mp hf (r.z, i) (((sortedElems_spec hs t).2 r.z i).mpr he)
    simp [row?_of_mem base_Z_distinct hr] at this
  | some zi =>
    have hstep : step base s (.name t r.name) = (s, .obj zi.2) := by
      simp only [step]
      rw [hf]
    rw [hstep, unique_element hs (elem_of_name hs base_names_distinct hr (congrArg Prod.snd hstep)) ho]

/-- a charge listed for the element always yields the ion – through the element, one of its
    isotopes, or another ion -/
theorem valid_charge_succeeds {s : State} (h : Reach s) {o w e : Nat} {t : String} {z : Nat} {r : BaseRow}
    {q : Int} (hw : s.ionOwner o = some w) (hel : s.elemOf w = some (e, t, z))
    (hrow : base.row? z = some r) (hq : q ∈ r.ions) : ∃ i, (step base s (.ion o q)).2 = .obj i := by
  simp only [step, hw, State.ionGet]
  cases hg : (s.ionsOf w).get? q with
  | some i => exact ⟨i, rfl⟩
  | none => simp [hel, hrow, hq]

/-! ## iteration -/

/-- `for el in table`: increasing Z, every element of the table exactly once -/
theorem iter_sorted_nodup {s : State} (h : Reach s) (t : String) :
    ((s.sortedElems t).map (·.1)).Pairwise (· < ·) ∧
    ∀ z i, (z, i) ∈ s.sortedElems t ↔ s.elems.get? (t, z) = some i :=
  sortedElems_spec (inv_reach h) t

/-- `for iso in element`: increasing A, every isotope of the element exactly once -/
theorem iter_isotopes_sorted_nodup {s : State} (h : Reach s) (e : Nat) :
    ((s.sortedIsos e).map (·.1)).Pairwise (· < ·) ∧
    ∀ a i, (a, i) ∈ s.sortedIsos e ↔ (s.isosOf e).get? a = some i :=
  have hnd := (inv_reach h).isosND e
  have hsort := sortByKey_spec _ (List.pairwise_map.mp hnd)
  ⟨hsort.1, fun _ _ => (hsort.2 _).trans ⟨Dict.get?_of_mem hnd, Dict.mem_of_get?⟩⟩

/-! ## pickling / copying and changing table -/

/-- every existing atom pickles / copies back to itself, and restoring changes nothing -/
theorem pickle_roundtrip_total {s : State} (h : Reach s) {o : Nat} {ob : Obj} (ho : s.obj o = some ob) :
    step base s (.reduce o) = (s, .obj o) := by
  obtain ⟨k, hk, ht, hp⟩ := path_of_obj (inv_reach h) ho
  simp only [step, hk, ht, if_true, hp]

/-- `pickle.loads(pickle.dumps(x)) is x` (also `copy`, `deepcopy`: all go through `__reduce__`) -/
theorem pickle_roundtrip_id {s : State} (h : Reach s) {o i : Nat}
    (hr : (step base s (.reduce o)).2 = .obj i) : i = o := by
  cases hk : s.keyOf o with
  | none => simp [step, hk] at hr
  | some k =>
    obtain ⟨_, ho⟩ := obj_of_keyOf hk
    rw [pickle_roundtrip_total h ho] at hr
    exact (Res.obj.inj hr).symm

/-- `change_table(atom, T)` is the atom with the same Z, A and charge in T -/
theorem change_table_same_key {s : State} (h : Reach s) {o i : Nat} {t : String} {k : Key}
    (hk : s.keyOf o = some k) (hr : (step base s (.changeTable o t)).2 = .obj i) :
    (step base s (.changeTable o t)).1.keyOf i = some ⟨t, k.z, k.a, k.q⟩ := by
  simp only [step, hk] at hr ⊢
  split at hr
  · next ht =>
      rw [if_pos ht]
      exact path_key (inv_reach h) (Prod.ext rfl hr)
  · cases hr

/-! ## non-vacuity: the hypotheses above are met by a concrete reachable state

`s0` = a fresh interpreter after `PeriodicTable("public")`, one isotope added to Fe and two ions
created; every route returns the object the theorems talk about (one kernel evaluation). -/

def ops0 : List Op := [.newTable "public", .addIsotope 26 56, .ion 26 2, .ion 121 3]
def s0 : State := run base init ops0
theorem reach_s0 : Reach s0 := ⟨ops0, rfl⟩

example :
    (step base s0 (.getZ "public" 26)).2 = .obj 26 ∧
    (step base s0 (.symbol "public" "Fe")).2 = .obj 26 ∧
    (step base s0 (.name "public" "iron")).2 = .obj 26 ∧
    (step base s0 (.name "public" "deuterium")).2 = .obj 119 ∧
    (step base s0 (.isotope "public" "Fe")).2 = .obj 26 ∧
    (step base s0 (.attr "public" "Fe")).2 = .obj 26 ∧
    (step base s0 (.isotope "public" " 56-Fe")).2 = .obj 121 ∧
    (step base s0 (.isotope "public" "0-Fe")).2 = .err .value ∧
    (step base s0 (.isotope "public" "D")).2 = .obj 119 ∧
    (step base s0 (.iso 26 56)).2 = .obj 121 ∧
    (step base s0 (.ion 26 2)).2 = .obj 122 ∧
    (step base s0 (.ion 121 3)).2 = .obj 123 ∧
    (step base s0 (.ion 122 3)).2 = .obj 124 ∧       -- ion of an ion: a new Fe{3+}
    (step base s0 (.ion 26 9)).2 = .err .value ∧
    (step base s0 (.reduce 123)).2 = .obj 123 ∧
    (step base s0 (.changeTable 122 "public")).2 = .obj 122 ∧
    (step base s0 (.newTable "public")).2 = .err .value ∧
    s0.keyOf 123 = some ⟨"public", 26, some 56, some 3⟩ ∧
    (s0.sortedElems "public").length = 119 ∧
    parseIsotope "56-Fe-" = ("", -1) ∧
    base.row? 119 = none := by
  -- evaluate the constructor loop in its form for a fresh name (see `foldl_mkElement_fresh`)
  rw [s0, ops0, run_cons, show step base init (.newTable "public") = init.newTable base "public" from rfl]
  simp only [State.newTable]
  rw [foldl_mkElement_fresh base _ base_Z_distinct base_symbols_distinct fun _ _ => ⟨rfl, rfl⟩]
  decide +kernel

end PtVerif.C08
