import PtVerif.Proofs.DecayTime
import PtVerif.Proofs.ActivationSample
/-!
# C15 — `decay_time(target)` returns the time at which total activity reaches the target

Model: `decayTime` / `decayTimeOfData` / `findRoot` / `calcActivation` of
`PtVerif.Model.Activation`, the code of `Sample.decay_time`, `find_root` and
`Sample.calculate_activation` **with `fixes/activation-2-decay-time.patch` applied** (the solve
works from the activity at removal that `calculate_activation` records; `f(0) <= 0` early exit;
`-La*Ia` derivative; `max(t, 0.)`).  Tied to the source by `harness/ptv/props/C15.py`.
Each section is headed by the clause of the property it proves.

Partial: in the corner `target < A(0) ≤ 1.001·target` the function may return `0` (it is within
tolerance there, which the first clause allows); floating-point rounding of the Newton iteration is
compared, not proved.
-/
namespace PtVerif.C15
open PtModel.Activation

/-! ## "returns a time t >= 0 […] at which the summed activity of all products, each decaying with its
own half-life, is within 0.1% of the target" -/

/-- a returned time is ≥ 0 and is either the early exit (0, already at or below the target)
    or a time at which `Σ Aᵢ·exp(-λᵢ t)` is within 0.1 % of the target -/
theorem accepted_is_within_tolerance (data : List (ℝ × ℝ)) (target t : ℝ)
    (hd : ∀ d ∈ data, 0 ≤ d.1 ∧ 0 ≤ d.2) (htarget : 0 < target)
    (h : decayTimeOfData data target = .ok t) :
    0 ≤ t ∧ ((total data 0 ≤ target ∧ t = 0) ∨ |total data t - target| ≤ target / 1000) := by
  obtain ⟨h0, rfl⟩ | ⟨h0, t', hacc, rfl⟩ := decayTimeOfData_inv h
  · exact ⟨le_rfl, Or.inl ⟨h0, rfl⟩⟩
  rw [accept_iff htarget] at hacc
  split
  · -- a negative Newton result is clipped to 0; the activity there lies between the target and
    -- the accepted value
    rename_i hneg
    refine ⟨le_rfl, Or.inr ?_⟩
    rw [abs_of_pos (sub_pos.mpr h0)]
    exact ((sub_le_sub_right (total_antitone data hd t' 0 hneg.le) _).trans (le_abs_self _)).trans hacc
  · exact ⟨not_lt.mp ‹_›, Or.inr hacc⟩

example : (∀ d ∈ [((3:ℝ), (1:ℝ)), (2, 0.5)], 0 ≤ d.1 ∧ 0 ≤ d.2) ∧ (0:ℝ) < 1 := by
  constructor
  · intro d hd
    simp at hd
    rcases hd with rfl | rfl <;> norm_num
  · norm_num

/-- the products `decay_time` sees (`decayData`) are positive, as `raises_otherwise` needs -/
theorem decay_data_is_positive (c : Consts ℝ) (hln2 : c.ln2 = Real.log 2) (thalfOf : Nat → ℝ)
    (removal : List (Nat × ℝ)) (hth : ∀ ka ∈ removal, 0 < thalfOf ka.1) (hnn : ∀ ka ∈ removal, 0 ≤ ka.2) :
    ∃ data, decayData c thalfOf removal = .ok data ∧ (∀ d ∈ data, 0 < d.1 ∧ 0 < d.2) ∧
      ∀ t, total data t = specTotal thalfOf removal t := by
  induction removal with
  | nil => exact ⟨[], rfl, by simp, fun t => by simp [total, specTotal]⟩
  | cons ka more ih =>
    obtain ⟨k, ia⟩ := ka
    obtain ⟨data, hdata, hpos, htot⟩ := ih (fun x hx => hth x (List.mem_cons_of_mem _ hx))
      (fun x hx => hnn x (List.mem_cons_of_mem _ hx))
    have hT : 0 < thalfOf k := hth (k, ia) List.mem_cons_self
    have hia : 0 ≤ ia := hnn (k, ia) List.mem_cons_self
    by_cases hp : 0 < ia
    · refine ⟨(ia, c.ln2 / thalfOf k) :: data, decayData_cons_of_pos c thalfOf more hp hT.ne' hdata, ?_,
        fun t => ?_⟩
      · intro d hd
        rcases List.mem_cons.mp hd with rfl | hd
        · exact ⟨hp, by rw [hln2]; exact div_pos (Real.log_pos (by norm_num)) hT⟩
        · exact hpos d hd
      · simp only [total, List.map_cons, List.sum_cons, specTotal] at htot ⊢
        rw [htot t, hln2, exp_neg_log_two_div_mul]
    · have hz : ia = 0 := le_antisymm (not_lt.mp hp) hia
      refine ⟨data, (decayData_cons_of_not_pos c thalfOf k more hp).trans hdata, hpos, fun t => ?_⟩
      simp only [specTotal, List.map_cons, List.sum_cons, hz, zero_mul, zero_add] at htot ⊢
      exact htot t

/-- the same in the documented form: from the recorded activities at removal `A_k ≥ 0` and the
    tabulated half-lives `T_k > 0`, `Σ_k A_k·2^(-t/T_k)` at the returned time is within 0.1 % -/
theorem accepted_is_within_tolerance_of_documented_sum (c : Consts ℝ) (hln2 : c.ln2 = Real.log 2)
    (thalfOf : Nat → ℝ) (removal : List (Nat × ℝ)) (target t : ℝ)
    (hth : ∀ ka ∈ removal, 0 < thalfOf ka.1) (hnn : ∀ ka ∈ removal, 0 ≤ ka.2) (htarget : 0 < target)
    (h : decayTime c thalfOf removal target = .ok t) :
    0 ≤ t ∧ ((specTotal thalfOf removal 0 ≤ target ∧ t = 0) ∨
      |specTotal thalfOf removal t - target| ≤ target / 1000) := by
  obtain ⟨data, hdata, hpos, htot⟩ := decay_data_is_positive c hln2 thalfOf removal hth hnn
  unfold decayTime at h
  rw [hdata] at h
  have := accepted_is_within_tolerance data target t (fun d hd => ⟨(hpos d hd).1.le, (hpos d hd).2.le⟩) htarget h
  rwa [htot 0, htot t] at this

/-! ## "it returns 0 exactly when the activity at removal is already at or below the target" -/

/-- already at or below the target ⇒ exactly 0; and 0 is returned only if the activity at removal
    is at most 1.001·target -/
theorem zero_iff_already_below (data : List (ℝ × ℝ)) (target : ℝ)
    (hd : ∀ d ∈ data, 0 ≤ d.1 ∧ 0 ≤ d.2) (htarget : 0 < target) :
    (total data 0 ≤ target → decayTimeOfData data target = .ok 0) ∧
    (decayTimeOfData data target = .ok 0 → total data 0 ≤ target * 1.001) := by
  refine ⟨fun h => ?_, fun h => ?_⟩
  · unfold decayTimeOfData
    rw [fDecay_eq]
    exact if_pos (sub_nonpos.mpr h)
  · rw [show target * 1.001 = target + target / 1000 by ring]
    rcases (accepted_is_within_tolerance data target 0 hd htarget h).2 with ⟨h0, _⟩ | h0
    · exact h0.trans (le_add_of_nonneg_right (div_nonneg htarget.le (by norm_num)))
    · exact sub_le_iff_le_add'.mp ((le_abs_self _).trans h0)

/-- clearly above the target at removal ⇒ any returned time is strictly positive -/
theorem pos_of_clearly_above (data : List (ℝ × ℝ)) (target t : ℝ)
    (hd : ∀ d ∈ data, 0 ≤ d.1 ∧ 0 ≤ d.2) (htarget : 0 < target)
    (habove : target * 1.001 < total data 0)
    (h : decayTimeOfData data target = .ok t) : 0 < t := by
  refine (accepted_is_within_tolerance data target t hd htarget h).1.lt_of_ne' fun hz => ?_
  rw [hz] at h
  exact habove.not_ge ((zero_iff_already_below data target hd htarget).2 h)

example : (1:ℝ) * 1.001 < total [((3:ℝ), (1:ℝ))] 0 := by
  simp [total]
  norm_num

/-! ## "if it cannot achieve that accuracy it raises RuntimeError rather than returning a time" -/

/-- for positive products and a positive target the outcome is a time or RuntimeError, nothing
    else (no ZeroDivisionError, OverflowError, ValueError) -/
theorem raises_otherwise (data : List (ℝ × ℝ)) (target : ℝ)
    (hd : ∀ d ∈ data, 0 < d.1 ∧ 0 < d.2) (htarget : 0 < target) :
    (∃ t, decayTimeOfData data target = .ok t) ∨ decayTimeOfData data target = .error .runtime := by
  obtain ⟨m, hm, hsome⟩ := initialGuess_ok data target hd htarget none
  have hne {f0 : ℝ} (hf0 : fDecay data target 0 = .ok f0) (h0 : ¬ f0 ≤ 0) : data ≠ [] := by
    rintro rfl
    cases hf0
    exact h0 (sub_nonpos.mpr htarget.le)
  -- branch by branch: a time, RuntimeError, or an exception site that cannot be reached
  fun_cases decayTimeOfData data target with
  | case2 | case8 => exact Or.inl ⟨_, rfl⟩
  | case7 => exact Or.inr rfl
  | case1 e he =>
    -- `f(0)` raises
    rw [fDecay_eq] at he
    cases he
  | case3 _ _ _ e he => cases he.symm.trans hm  -- a guess `-log(target/Ia)/La` raises
  | case4 f0 hf0 h0 he =>
    -- `max()` of no guesses
    cases he.symm.trans hm
    cases hsome (Or.inr (hne hf0 h0))
  | case5 f0 hf0 h0 x0 _ e he =>
    -- `find_root` raises
    obtain ⟨r, hr⟩ := findRoot_ok (total data · - target) (dtotal data)
      (fun x => (dtotal_neg data hd (hne hf0 h0) x).ne) x0
    rw [funext (fDecay_eq data target), funext (dfDecay_eq data)] at he
    cases he.symm.trans hr
  | case6 _ _ _ _ _ _ _ _ hz => exact absurd (beq_iff_eq.mp hz) htarget.ne'  -- `target == 0`

/-- … and a time that fails the 0.1 % test is never returned (other than the early-exit 0) -/
theorem never_returns_unaccepted (data : List (ℝ × ℝ)) (target t : ℝ)
    (hd : ∀ d ∈ data, 0 ≤ d.1 ∧ 0 ≤ d.2) (htarget : 0 < target)
    (h : decayTimeOfData data target = .ok t) (hnot : target / 1000 < |total data t - target|) :
    total data 0 ≤ target ∧ t = 0 := by
  rcases (accepted_is_within_tolerance data target t hd htarget h).2 with h0 | h0
  · exact h0
  · exact absurd h0 (not_le.mpr hnot)

/-! ## "the answer does not depend on which rest times were requested in the calculation" -/

/-- the list `decay_time` reads is the same, hence so is everything computed from it -/
theorem independent_of_rest_times (c : Consts ℝ) (rowsOf : Nat → Nat → List (Nat × Row ℝ))
    (thalfOf : Nat → ℝ) (mass : ℝ) (env : Env ℝ) (T : ℝ) (rests rests' : List ℝ) (parts : List (PtModel.Activation.Part ℝ))
    (tally : Tally ℝ) (target : ℝ)
    (h : calcActivation c rowsOf mass env T rests parts = .ok tally) :
    ∃ tally', calcActivation c rowsOf mass env T rests' parts = .ok tally' ∧
      decayTime c thalfOf tally'.removal target = decayTime c thalfOf tally.removal target := by
  obtain ⟨tally', h1, h2⟩ :=
    calcActivation_removal_list_independent c rowsOf mass env T rests rests' parts tally h
  exact ⟨tally', h1, by rw [h2]⟩

end PtVerif.C15
