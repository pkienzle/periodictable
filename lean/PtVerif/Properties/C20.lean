import PtVerif.Proofs.AncillaryField
import PtVerif.Model.LoaderTables
import PtVerif.Generated.Ancillary
import PtVerif.Proofs.ElementTable
/-!
# C20 — ancillary tables are served to exactly the element or ion they belong to

Model: `PtVerif.Model.Ancillary` (the five loaders as text parsers + folds, the symbol
resolution of `fxrayatstol`, `formfactor_0/n`, Cromer-Mann `atstol`), tied to
covalent_radius.py, crystal_structure.py, xsf.py, magnetic_ff.py, cromermann.py and
xsf/f0_WaasKirf.dat by `harness/ptv/props/C20.py`.

Part 1: every table.  Part 2: kernel-checked facts about the embedded tables.  Part 3: part 1
on the embedded tables.

Not covered: floating-point rounding; numpy's evaluation of the form factors; `eval()` of the
Fortran argument text (the model parses the one shape the table uses); the string-level
parse = generated rows is checked by the compiled driver.
-/
namespace PtVerif.C20
open PtLoad PtCheck

/-! ## Part 1 — every table -/

section generic
variable {α : Type} [Mul α] [Div α] [NatCast α] [IntCast α]

/-- covalent radius: an element is served the radius and 0.01 × the uncertainty of the (last)
    Cordero line with its atomic number – lines of alternate spin states (`-`) serve nobody, so
    where several spin states are listed the first one counts -/
theorem covalent_radius_is_row (pre post : List CovRow) (z : Nat) (r dr : Dec)
    (hlast : ∀ x ∈ post, covKey x ≠ some z) :
    aget z (Cov.loadRows (α := α) (pre ++ .row z r dr :: post))
      = some ((r.toNum : α), some (dr.toNum * (Dec.mk 1 2).toNum)) := by
  rw [cov_served]
  exact lastOf_last hlast rfl _

/-- … an element without a line has radius and uncertainty `None` (no binding), not a
    neighbour's -/
theorem covalent_radius_absent (rows : List CovRow) (z : Nat) (hz : z ≠ 0)
    (h : ∀ x ∈ rows, covKey x ≠ some z) : aget z (Cov.loadRows (α := α) rows) = none := by
  rw [cov_served, lastOf_none h]
  exact aget_cons_ne hz _ _

theorem covalent_radius_neutron (rows : List CovRow) (h : ∀ x ∈ rows, covKey x ≠ some 0) :
    aget 0 (Cov.loadRows (α := α) rows) = some ((Dec.mk 20 2).toNum, none) := by
  rw [cov_served, lastOf_none h]
  rfl

end generic

/-- crystal structure: element Z is served slot Z of the list, elements beyond the list have
    no attribute -/
theorem crystal_structure_is_index (l : List (Option Crystal)) (z : Nat) :
    aget z (Crystal.load l) = l[z]? := by
  unfold Crystal.load
  rw [Crystal.loadGo_eq, foldl_lastOf (p := fun x => x.2 = z) (F := fun x => some x.1) (aget z)
    (step := fun acc (x : Option Crystal × Nat) => (x.2, x.1) :: acc) fun _ _ => aget_cons ..]
  cases h : l[z]? with
  | none => exact lastOf_none (fun x hx e => by cases e; cases h.symm.trans (List.mem_zipIdx_iff_getElem?.mp hx)) _
  | some s =>
    refine lastOf_of_agree (p := fun x => x.2 = z) (r := (s, z)) (fun x hx e => ?_)
      (List.mem_zipIdx_iff_getElem?.mpr h) rfl _
    cases e
    exact (List.mem_zipIdx_iff_getElem?.mp hx).symm.trans h

/-- emission lines: the element a (last) row names by symbol is served that row -/
theorem emission_lines_are_row (zOf : Nat → Option Nat) (pre post : List LineRow) (r : LineRow) (z : Nat)
    (hz : zOf r.sym = some z) (hlast : ∀ x ∈ post, zOf x.sym ≠ some z) :
    aget z (Lines.loadRows zOf (pre ++ r :: post)) = some (r.kAlpha, r.kBeta1) := by
  rw [lines_served, lastOf_last hlast hz]

theorem emission_lines_absent (zOf : Nat → Option Nat) (rows : List LineRow) (z : Nat)
    (h : ∀ x ∈ rows, zOf x.sym ≠ some z) : aget z (Lines.loadRows zOf rows) = none := by
  rw [lines_served, lastOf_none h]

/-- magnetic form factors: the tuple `jn` of charge state `(z, q)` is that of the last entry
    with that element, charge and kind … -/
theorem magnetic_coefficients_are_entry (zOf : Nat → Option Nat) (pre post : List MagRow) (r : MagRow)
    (z : Nat) (hz : zOf r.sym = some z)
    (hlast : ∀ x ∈ post, ¬(zOf x.sym = some z ∧ x.charge = r.charge ∧ x.jn = r.jn)) :
    ((aget (z, r.charge) (Mag.loadRows zOf (pre ++ r :: post))).getD {}).get r.jn = some r.values := by
  rw [mag_served, lastOf_last hlast ⟨hz, rfl, rfl⟩]

/-- … a kind no entry gives is not an attribute of that charge state … -/
theorem magnetic_coefficients_absent_kind (zOf : Nat → Option Nat) (rows : List MagRow) (z q : Nat) (jn : Jn)
    (h : ∀ x ∈ rows, ¬(zOf x.sym = some z ∧ x.charge = q ∧ x.jn = jn)) :
    ((aget (z, q) (Mag.loadRows zOf rows)).getD {}).get jn = none := by
  rw [mag_served, lastOf_none h]

/-- … and a charge state no entry names does not exist -/
theorem magnetic_charge_state_absent (zOf : Nat → Option Nat) (rows : List MagRow) (z q : Nat)
    (h : ∀ x ∈ rows, ¬(zOf x.sym = some z ∧ x.charge = q)) :
    aget (z, q) (Mag.loadRows zOf rows) = none := by
  refine foldl_keeps (aget (z, q)) rows (fun l r hr => ?_) []
  cases hz : zOf r.sym with
  | none => rfl
  | some z' => exact aget_cons_ne (fun e => h r hr (by cases e; exact ⟨hz, rfl⟩)) _ _

/-- Cromer-Mann: when the `#S` symbols are distinct, `getCMformula(symbol)` returns the block with
    that symbol, in the DABAX column order a1..a5 c b1..b5 (with a repeated symbol the last block
    is served: `PtLoad.cm_entry_last`) -/
theorem cm_entry_is_block (es : List CMEntry) (hnd : (es.map (·.symbol)).Nodup) (e : CMEntry) (he : e ∈ es) :
    aget e.symbol (CM.load es) = some e := by
  rw [cm_served, lastOf_of_mem_nodup hnd he]

theorem cm_entry_absent (es : List CMEntry) (s : String) (h : ∀ x ∈ es, x.symbol ≠ s) :
    aget s (CM.load es) = none := by
  rw [cm_served, lastOf_none h]

/-- the DABAX column order: the five `a`, then `c`, then the five `b` -/
example : parseCM ("#S  1  H\n#N 11\n#L a1  a2  a3  a4  a5  c  b1  b2  b3  b4  b5\n" ++
      "  1 2 3 4 5 6 7 8 9 10 11\n").toList
    = some [⟨"H", [⟨1, 0⟩, ⟨2, 0⟩, ⟨3, 0⟩, ⟨4, 0⟩, ⟨5, 0⟩], ⟨6, 0⟩, [⟨7, 0⟩, ⟨8, 0⟩, ⟨9, 0⟩, ⟨10, 0⟩, ⟨11, 0⟩]⟩] := by
  decide +kernel

/-- which entry an element or ion looks up: symbol, then the charge as `<n><+|->` -/
example : cmKey "Fe".toList (some 0) = "Fe".toList ∧ cmKey "Fe".toList (some 3) = "Fe3+".toList
    ∧ cmKey "O".toList (some (-2)) = "O2-".toList ∧ cmKey "Cl-".toList none = "Cl1-".toList
    ∧ cmKey "Ca2+".toList none = "Ca2+".toList ∧ cmKey "Fe2+".toList (some 3) = "Fe3+".toList := by decide +kernel

/-- for an element symbol (not ending in a digit or sign) `Xray.f0` of the element looks up the
    symbol itself and of an ion with charge `q` the entry `symbol<|q|><+|->` -/
theorem cm_key_of_symbol (s : Str) (c : Char) (hc : cmSuffixChar c = false) (q : Int) :
    cmKey (s ++ [c]) (some q)
      = if q = 0 then s ++ [c]
        else (s ++ [c]) ++ (toString q.natAbs).toList.reverse ++ [if q > 0 then '+' else '-'] := by
  unfold cmKey
  have hneg : ¬(fun c => "012345678+-".toList.contains c) c = true :=
    fun h => Bool.false_ne_true (hc.symm.trans h)
  have hbase : ((s ++ [c]).reverse.dropWhile fun c => "012345678+-".toList.contains c).reverse = s ++ [c] := by
    rw [List.reverse_append, List.reverse_singleton, List.singleton_append,
      List.dropWhile_cons_of_neg hneg, List.reverse_cons, List.reverse_reverse]
  simp only [hbase]

/-- the CFML symbol / charge split: one-letter symbols are recognised by the digit in second
    place, two-letter symbols are capitalised -/
example : splitState "V2 ".toList = some ("V".toList, 2) ∧ splitState "MN2".toList = some ("Mn".toList, 2)
    ∧ splitState "Y0 ".toList = some ("Y".toList, 0) ∧ splitState "U3 ".toList = some ("U".toList, 3)
    ∧ splitState "Fe2".toList = some ("Fe".toList, 2) := by decide +kernel

/-- form factors follow `A e^{-a s²} + B e^{-b s²} + C e^{-c s²} + D`, `s = Q/4π` -/
theorem formfactor_formula (A a B b C c D q : ℝ) :
    formfactor0 [A, a, B, b, C, c, D] q
      = some (A * Real.exp (-a * (q / (4 * Real.pi)) ^ 2) + B * Real.exp (-b * (q / (4 * Real.pi)) ^ 2)
              + C * Real.exp (-c * (q / (4 * Real.pi)) ^ 2) + D) := by
  rw [← sSq_real]
  rfl

theorem formfactor_n_formula (A a B b C c D q : ℝ) :
    formfactorN [A, a, B, b, C, c, D] q
      = some ((q / (4 * Real.pi)) ^ 2 * (A * Real.exp (-a * (q / (4 * Real.pi)) ^ 2)
              + B * Real.exp (-b * (q / (4 * Real.pi)) ^ 2) + C * Real.exp (-c * (q / (4 * Real.pi)) ^ 2) + D)) := by
  rw [← sSq_real]
  rfl

/-- higher orders vanish at Q = 0 -/
theorem jn_zero_at_Q0 (A a B b C c D : ℝ) : formfactorN [A, a, B, b, C, c, D] 0 = some 0 :=
  formfactorN_zero _ rfl

/-- a `<j0>` form factor is `A + B + C + D` at Q = 0 -/
theorem j0_at_Q0 (A a B b C c D : ℝ) : formfactor0 [A, a, B, b, C, c, D] 0 = some (A + B + C + D) :=
  formfactor0_zero A a B b C c D

/-- Cromer-Mann at Q = 0: `Σ aᵢ + c` (the number of electrons of the atom or ion) -/
theorem f0_at_Q0 (a b : List ℝ) (c : ℝ) (h : a.length ≤ b.length) : cmAtStol a b c 0 = a.sum + c := by
  unfold cmAtStol
  induction a generalizing b with
  | nil => simp
  | cons x a ih =>
    cases b with
    | nil => simp at h
    | cons y b =>
      simp only [List.zipWith_cons_cons, List.foldr_cons, List.sum_cons]
      rw [ih b (by simpa using h)]
      show x * Real.exp (-y * (0 * 0)) + _ = _
      rw [mul_zero, mul_zero, Real.exp_zero, mul_one, add_assoc]

/-! ## Part 2 — the embedded tables (kernel-checked on every run) -/

/-- Cordero: the atomic numbers of the lines that are not alternate spin states are strictly
    increasing, hence each element has one line -/
theorem cordero_keys_sorted : incr (PtGen.corderoRows.filterMap covKey) = true := by decide +kernel

theorem cordero_rows_exist : Cov.rowsOk symOf PtGen.corderoRows = true := by
  have h : (PtGen.corderoRows.filterMap covKey).all (bits allZ).testBit = true := by decide +kernel
  refine Bool.and_eq_true_iff.mpr ⟨symOf_isSome_of_testBit (by decide +kernel), List.all_eq_true.mpr fun r hr => ?_⟩
  cases r with
  | skip => rfl
  | row z _ _ =>
    exact symOf_isSome_of_testBit (List.all_eq_true.mp h z (List.mem_filterMap.mpr ⟨_, hr, rfl⟩))

/-- crystal structures: the list is not longer than the table -/
theorem crystal_list_fits : Crystal.ok symOf PtGen.crystalList = true :=
  have h : (List.range PtGen.crystalList.length).all (bits allZ).testBit = true := by decide +kernel
  List.all_eq_true.mpr fun z hz => symOf_isSome_of_testBit (List.all_eq_true.mp h z hz)

/-- emission lines: every symbol names an element, no element is named twice -/
theorem lines_symbols_known : Lines.rowsOk zOf PtGen.lineRows = true :=
  have h : PtGen.lineRows.all (fun r => (bits (PtModel.genSyms.map Prod.snd)).testBit r.sym) = true := by
    decide +kernel
  List.all_eq_true.mpr fun r hr => zOf_isSome_of_testBit (List.all_eq_true.mp h r hr)

theorem lines_elements_distinct : (PtGen.lineRows.filterMap fun r => zOf r.sym).Nodup :=
  nodup_filterMap_zOf LineRow.sym (nodup_of_distinct (by decide +kernel))

/-- CFML: every entry names an element and has seven numbers -/
theorem mag_rows_ok :
    PtGen.magRows.all (fun r => (zOf r.sym).isSome && r.values.length == 7) = true := by
  have h : PtGen.magRows.all (fun r => (bits (PtModel.genSyms.map Prod.snd)).testBit r.sym
      && r.values.length == 7) = true := by
    simp only [PtGen.magRows, List.append_assoc]
    decide +kernel
  refine List.all_eq_true.mpr fun r hr => ?_
  have h := List.all_eq_true.mp h r hr
  rw [Bool.and_eq_true] at h ⊢
  exact ⟨zOf_isSome_of_testBit h.1, h.2⟩

/-- **every `<j0>` set sums to 1 within 0.5 %**: `|A + B + C + D − 1| ≤ 0.005` -/
theorem j0_sets_normalised :
    PtGen.magRows.all (fun r => r.jn != .j0 || j0Ok r.values) = true := by
  simp only [PtGen.magRows, List.append_assoc]
  decide +kernel

/-- f0_WaasKirf.dat: entries (Z, charge | valence) are pairwise distinct: so are the numbers
    `64·Z + code(charge)` -/
theorem cm_atoms_distinct : PtGen.cmAtoms.Nodup :=
  nodup_of_map (fun p => p.1 * 64 + match p.2 with | none => 0 | some q => (q + 32).toNat + 1) <|
    nodup_of_distinct (by decide +kernel)

theorem cm_lengths : PtGen.cmEntries.length = PtGen.cmAtoms.length := by
  simp only [PtGen.cmEntries, List.append_assoc]
  decide +kernel

/-- the `#S` symbols are pairwise distinct -/
theorem cm_symbols_distinct : (PtGen.cmEntries.map (·.symbol)).Nodup :=
  nodup_of_map strKey <| nodup_of_distinct <| by
    simp only [PtGen.cmEntries, List.append_assoc]
    decide +kernel

/-- CFML: entries that name the same element, charge and kind carry the same numbers (the one
    repeated entry, `JHO2`, is an exact duplicate), so it does not matter which one is served -/
theorem mag_duplicates_agree : magAgree PtGen.magRows = true := by
  simp only [PtGen.magRows, List.append_assoc]
  decide +kernel

/-- **every entry that names an atom or ion has `|Σa + c − (Z − q)| ≤ 0.05`** – the block of
    numbers belongs to the element and charge its `#S` line names -/
theorem cm_entries_match_their_atom :
    (PtGen.cmEntries.zip PtGen.cmAtoms).all (fun p => f0Ok p.1 p.2) = true := by
  simp only [PtGen.cmEntries, List.append_assoc]
  decide +kernel

/-! ## Part 3 — part 1 on the embedded tables -/

section generated
variable {α : Type} [Mul α] [Div α] [NatCast α] [IntCast α]

/-- every element with a Cordero line is served that line -/
theorem generated_covalent_radius (z : Nat) (r dr : Dec) (h : CovRow.row z r dr ∈ PtGen.corderoRows) :
    aget z (Cov.loadRows (α := α) PtGen.corderoRows)
      = some ((r.toNum : α), some (dr.toNum * (Dec.mk 1 2).toNum)) := by
  rw [cov_served]
  exact lastOf_of_mem_filterMap_nodup (nodup_of_incr cordero_keys_sorted) h rfl _

/-- every element is served slot Z of the embedded list -/
theorem generated_crystal_structure (z : Nat) :
    aget z (Crystal.load PtGen.crystalList) = PtGen.crystalList[z]? := crystal_structure_is_index _ z

/-- every row of the emission-line table is served to the element it names -/
theorem generated_emission_lines (r : LineRow) (hr : r ∈ PtGen.lineRows) (z : Nat) (hz : zOf r.sym = some z) :
    aget z (Lines.loadRows zOf PtGen.lineRows) = some (r.kAlpha, r.kBeta1) := by
  rw [lines_served, lastOf_of_mem_filterMap_nodup lines_elements_distinct hr hz]

/-- every CFML entry is served to the charge state it names -/
theorem generated_magnetic_coefficients (r : MagRow) (hr : r ∈ PtGen.magRows) (z : Nat) (hz : zOf r.sym = some z) :
    ((aget (z, r.charge) (Mag.loadRows zOf PtGen.magRows)).getD {}).get r.jn = some r.values := by
  rw [mag_served]
  refine lastOf_of_agree (fun x hx hk => congrArg some ?_) hr ⟨hz, rfl, rfl⟩ none
  exact magAgree_sound PtGen.magRows mag_duplicates_agree r x hr hx (zOf_inj hk.1 hz) hk.2.1 hk.2.2

/-- every block of f0_WaasKirf.dat is served to its own symbol -/
theorem generated_cm_entry (e : CMEntry) (he : e ∈ PtGen.cmEntries) :
    aget e.symbol (CM.load PtGen.cmEntries) = some e := cm_entry_is_block _ cm_symbols_distinct e he

/-- every `<j0>` set of the embedded table evaluates to 1 within 0.5 % at Q = 0 -/
theorem generated_j0_at_Q0 (r : MagRow) (hr : r ∈ PtGen.magRows) (hj : r.jn = .j0) :
    ∃ x : ℝ, formfactor0 (r.values.map fun d => (d.toNum : ℝ)) 0 = some x ∧ |x - 1| ≤ 0.005 := by
  have := List.all_eq_true.mp j0_sets_normalised r hr
  rw [hj] at this
  exact j0_zero_of_ok r.values this

/-- every higher-order set of the embedded table evaluates to 0 at Q = 0 -/
theorem generated_jn_at_Q0 (r : MagRow) (hr : r ∈ PtGen.magRows) :
    formfactorN (r.values.map fun d => (d.toNum : ℝ)) 0 = some 0 := by
  have := List.all_eq_true.mp mag_rows_ok r hr
  simp only [Bool.and_eq_true, beq_iff_eq] at this
  exact formfactorN_zero _ ((List.length_map ..).trans this.2)

end generated

/-! non-vacuity -/
example : CovRow.row 84 ⟨140, 2⟩ ⟨4, 0⟩ ∈ PtGen.corderoRows := by decide +kernel
example : PtGen.crystalList[80]? = some (some ⟨"Rhombohedral", [("a", ⟨299, 2⟩), ("alpha", ⟨7045, 2⟩)]⟩) := by
  decide +kernel
example : ∃ r ∈ PtGen.magRows, r.jn = .j0 ∧ zOf r.sym = some 26 ∧ r.charge = 2 := by decide +kernel
example : (PtGen.magRows.filter (·.jn == .j0)).length = 97 := by decide +kernel

end PtVerif.C20
